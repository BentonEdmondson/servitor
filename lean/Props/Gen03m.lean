import Model.Mime
import Generated.GoMime

/-
  The tie by translation for mime/mime.go (C03: the media type a response declares; C17:
  `GetMediaType`; C20: what `%mimetype`, `%supertype`, `%subtype` become).  The whole file is
  translated from the source on every run (`Generated/GoMime.lean`, namespace `GenMime`, by
  `extract/go2lean10.go`); the theorems below say the translated code computes what the
  hand-written model (`Model/Mime.lean`) computes.

  `re.FindStringSubmatch` is the parameter `find`.  `parse_of_four` / `parse_of_other` say what
  `Parse` does with ANY `find` (four groups: groups 1, 2, 3 become the three fields, nothing else
  is looked at; any other number of groups: the error naming the input; never a panic, although
  `matches[i]` is translated as a bounds-checked access).  `parse_eq` instantiates `find` with the
  submatch function of the modelled regular expression (`modelFind`): that this is what the
  regexp library computes for the literal in the source is the trusted part, covered by the
  extracted literal (`Facts17.media_type_grammar_unchanged`) and the differential check.
-/

namespace Gen03m

def ofModel (m : Mime.MediaType) : GenMime.MediaType := ⟨m.essence, m.supertype, m.subtype⟩
def toModel (g : GenMime.MediaType) : Mime.MediaType := ⟨g.Essence, g.Supertype, g.Subtype⟩

theorem toModel_ofModel (m : Mime.MediaType) : toModel (ofModel m) = m := rfl
theorem ofModel_toModel (g : GenMime.MediaType) : ofModel (toModel g) = g := rfl

theorem default_eq : GenMime.Default = .ok (ofModel Mime.default) := by
  -- `ofModel` of the model's constant is reduced to its three fields first: faced with a literal
  -- against a projection, `rfl` evaluates the literal (slow) instead of reducing the projection
  dsimp only [ofModel, Mime.default]
  rfl

theorem unknown_eq : GenMime.Unknown = .ok (ofModel Mime.unknown) := by
  dsimp only [ofModel, Mime.unknown]
  rfl

theorem unknownSubtype_eq (sup : Str) :
    GenMime.UnknownSubtype sup = .ok (ofModel (Mime.unknownSubtype sup)) := by
  dsimp only [ofModel, Mime.unknownSubtype]
  rfl

/-- The message of the error `Parse` builds: `"` + input + `" is not a valid media type`. -/
def notValid (input : Str) : Str := '"' :: input ++ "\" is not a valid media type".toList

/-- Whatever `FindStringSubmatch` is: when it returns four groups, `Parse` succeeds with groups
    1, 2, 3 as essence, supertype, subtype (group 0 is not looked at). -/
theorem parse_of_four (find : Str → List Str) (s g0 g1 g2 g3 : Str) (h : find s = [g0, g1, g2, g3]) :
    GenMime.Parse find s = .ok (.ok ⟨g1, g2, g3⟩) := by
  simp only [GenMime.Parse, h]
  rfl

/-- Whatever `FindStringSubmatch` is: when it does not return exactly four groups (nil included),
    `Parse` returns the error that names the input. -/
theorem parse_of_other (find : Str → List Str) (s : Str) (h : (find s).length ≠ 4) :
    GenMime.Parse find s = .ok (.error (notValid s)) := by
  have h' : Go.len (find s) ≠ 4 := by unfold Go.len; omega
  simp only [GenMime.Parse, h', ne_eq, not_false_eq_true, decide_true, if_true]
  rfl

theorem parse_cases (find : Str → List Str) (s : Str) :
    (∃ g0 g1 g2 g3, find s = [g0, g1, g2, g3] ∧ GenMime.Parse find s = .ok (.ok ⟨g1, g2, g3⟩)) ∨
    GenMime.Parse find s = .ok (.error (notValid s)) := by
  by_cases h : (find s).length = 4
  · match hf : find s, h with
    | [g0, g1, g2, g3], _ => exact .inl ⟨g0, g1, g2, g3, rfl, parse_of_four find s g0 g1 g2 g3 hf⟩
  · exact .inr (parse_of_other find s h)

/-- The bounds-checked `matches[1]`, `matches[2]`, `matches[3]` never go out of range: the length
    test in front of them is sufficient, for every `find`. -/
theorem parse_never_panics (find : Str → List Str) (s : Str) : ∃ r, GenMime.Parse find s = .ok r := by
  rcases parse_cases find s with ⟨_, _, _, _, _, h⟩ | h <;> exact ⟨_, h⟩

/-- The submatch function of the modelled regular expression `(?s)^((tok+)/(tok+)).*$`: the whole
    input (the expression is anchored at both ends and `.` matches newlines), then the three groups;
    nil when there is no match. -/
def modelFind (s : Str) : List Str :=
  match Mime.parse s with
  | some m => [s, m.essence, m.supertype, m.subtype]
  | none => []

/-- The translated `Parse`, run with the modelled regular expression, is the model's `parse`. -/
theorem parse_eq (s : Str) :
    GenMime.Parse modelFind s =
      .ok (match Mime.parse s with
           | some m => .ok (ofModel m)
           | none => .error (notValid s)) := by
  cases hp : Mime.parse s with
  | some m =>
    have hf : modelFind s = [s, m.essence, m.supertype, m.subtype] := by simp only [modelFind, hp]
    rw [parse_of_four modelFind s _ _ _ _ hf]
    rfl
  | none =>
    have hf : modelFind s = [] := by simp only [modelFind, hp]
    rw [parse_of_other modelFind s (by rw [hf]; decide)]

/-- `Update` is `Parse` followed by the assignment through the receiver: on success the receiver
    becomes the parsed value and the error is nil, on failure it is unchanged and the error is
    `Parse`'s — for every `find`. -/
theorem update_of_parse (find : Str → List Str) (m : GenMime.MediaType) (s : Str) :
    GenMime.Update find m s =
      (GenMime.Parse find s).map fun r =>
        match r with
        | .ok p => (p, none)
        | .error e => (m, some e) := by
  unfold GenMime.Update
  rcases GenMime.Parse find s with _ | _ | _ <;> rfl

theorem update_eq (m : GenMime.MediaType) (s : Str) :
    GenMime.Update modelFind m s =
      .ok (match Mime.parse s with
           | some p => (ofModel p, none)
           | none => (m, some (notValid s))) := by
  rw [update_of_parse, parse_eq]
  cases Mime.parse s <;> rfl

theorem matches_nil (m : GenMime.MediaType) : GenMime.Matches m [] = .ok false := rfl

theorem matches_cons (m : GenMime.MediaType) (t : Str) (ts : List Str) :
    GenMime.Matches m (t :: ts) = if m.Essence = t then .ok true else GenMime.Matches m ts := by
  unfold GenMime.Matches
  simp only [List.forIn_cons]
  by_cases h : m.Essence = t
  · simp only [h, decide_true, if_true]
    rfl
  · simp only [h, decide_false, if_false, Bool.false_eq_true]
    rfl

/-- The loop with its early `return true` is list membership of the essence. -/
theorem matches_eq (m : GenMime.MediaType) (ts : List Str) :
    GenMime.Matches m ts = .ok ((toModel m).matchesAny ts) := by
  induction ts with
  | nil => rfl
  | cons t ts ih =>
    rw [matches_cons, ih]
    simp only [Mime.MediaType.matchesAny, toModel, List.contains_cons]
    by_cases h : m.Essence = t <;> simp [h]

end Gen03m
