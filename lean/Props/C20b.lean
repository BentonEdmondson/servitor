import Model.Link
import Proofs.Link
import Proofs.C12

/-
  Property theorems about link selection (`pub/link.go`, the link helpers of `pub/common.go`,
  `Post.Media`, `Post.SelectLink`, `Actor.ProfilePic/Banner/SelectLink`): which (link, media
  type) pair reaches `ui.openExternally` (C20: "the full media type, its supertype or its
  subtype" are those of the link being opened; C12: number k opens target k).
-/

namespace C20b
open Link Obj

/-- A link with a media type of its own is opened with exactly that type. -/
theorem select_own_type (l : T) (d m : Mime.MediaType) (u : Str)
    (hu : l.uri = .ok u) (hm : l.mediaType = .ok m) :
    selectWithDefault l d = some ⟨u, m⟩ := by
  rw [selectWithDefault_of_uri d hu, hm]

/-- A link without a usable media type is opened with the default of its own kind (`image/*`,
    `audio/*`, `video/*`), else with the caller's default. Nothing else can be handed on. -/
theorem select_default_type (l : T) (d : Mime.MediaType) (u : Str) (e : Err)
    (hu : l.uri = .ok u) (hm : l.mediaType = .error e) :
    selectWithDefault l d =
      some ⟨u, if isMediaKind l.kind then Mime.unknownSubtype (lower l.kind) else d⟩ := by
  rw [selectWithDefault_of_uri d hu, hm]

/-- Only a link without a usable URL cannot be opened. -/
theorem select_none_iff (l : T) (d : Mime.MediaType) :
    selectWithDefault l d = none ↔ ∃ e, l.uri = .error e := by
  cases hu : l.uri with
  | error e => exact ⟨fun _ => ⟨e, rfl⟩, fun _ => by rw [selectWithDefault, hu]⟩
  | ok u =>
    rw [selectWithDefault_of_uri d hu]
    exact ⟨(nomatch ·), fun ⟨_, h⟩ => nomatch h⟩

/-- The link is handed on verbatim (the `String()` of the parsed URL). -/
theorem select_link (l : T) (d : Mime.MediaType) (s : Sel) (h : selectWithDefault l d = some s) :
    l.uri = .ok s.link :=
  (selectWithDefault_inv h).1

theorem selectBest_mem (ls : List T) (sup : Str) (l : T) (h : selectBest ls sup = .ok l) : l ∈ ls :=
  (selectBest_spec h).1

/-- A candidate of the wanted supertype is never passed over for one of another type. -/
theorem selectBest_prefers_match (ls : List T) (sup : Str) (l l' : T)
    (h : selectBest ls sup = .ok l) (hl' : l' ∈ ls) (hm' : supertypeMatches l' sup = .ok true) :
    supertypeMatches l sup = .ok true :=
  ((selectBest_spec h).2 l' hl').matches hm'

/-- Among the candidates of the same standing (matching or not), the one chosen has the largest
    rating. -/
theorem selectBest_rating_max (ls : List T) (sup : Str) (l l' : T) (r r' : Nat)
    (h : selectBest ls sup = .ok l) (hl' : l' ∈ ls)
    (hs : supertypeMatches l' sup = supertypeMatches l sup)
    (hr : rating l = .ok r) (hr' : rating l' = .ok r') : r' ≤ r :=
  ((selectBest_spec h).2 l' hl').rating hs hr hr'

/-- `Post.SelectLink(k)` for a body link: the k-th body link, with the unknown media type. -/
theorem postSelect_body {Time : Type} (L : Libs Time Url) (bodyLinks : List Str) (o : List (Str × JVal))
    (n : Int) (l : Str) (h1 : 1 ≤ n) (hl : bodyLinks[(n - 1).toNat]? = some l) :
    postSelect L bodyLinks o n = some ⟨l, Mime.unknown⟩ := by
  have hi : ¬ (n - 1 < 0) := by omega
  simp only [postSelect, Select.post, if_neg hi, hl]

/-- `Post.SelectLink(|body| + k + 1)` opens attachment k, with that attachment's own selection. -/
theorem postSelect_attachment {Time : Type} (L : Libs Time Url) (bodyLinks : List Str) (o : List (Str × JVal))
    (atts : List T) (k : Nat) (a : T)
    (ha : links L o "attachment".toList = .ok atts) (hk : atts[k]? = some a) :
    postSelect L bodyLinks o ((bodyLinks.length + k + 1 : Nat) : Int) = select a := by
  simp only [postSelect, ha]
  rw [show ((bodyLinks.length + k + 1 : Nat) : Int) = Select.attachmentNumber bodyLinks k from rfl,
    C12P.attachment_number_selects bodyLinks atts k a hk]

/-- Numbers outside 1..N open nothing. -/
theorem postSelect_out_of_range {Time : Type} (L : Libs Time Url) (bodyLinks : List Str) (o : List (Str × JVal))
    (atts : List T) (n : Int) (ha : links L o "attachment".toList = .ok atts)
    (h : n < 1 ∨ n > bodyLinks.length + atts.length) :
    postSelect L bodyLinks o n = none := by
  simp only [postSelect, ha, C12P.select_out_of_range bodyLinks atts n h]

/-- Attachments that failed to load contribute no numbers. -/
theorem postSelect_no_attachments {Time : Type} (L : Libs Time Url) (bodyLinks : List Str) (o : List (Str × JVal))
    (e : Err) (n : Int) (ha : links L o "attachment".toList = .error e)
    (h : n < 1 ∨ n > bodyLinks.length) :
    postSelect L bodyLinks o n = none := by
  simp only [postSelect, ha, C12P.select_out_of_range bodyLinks [] n (by simpa using h)]

/-- `Actor.SelectLink(k)`: bio link k with the unknown media type, nothing outside 1..N. -/
theorem actorSelect_spec (bioLinks : List Str) (n : Int) :
    actorSelect bioLinks n =
      if n < 1 then none
      else match bioLinks[(n - 1).toNat]? with
        | some l => some ⟨l, Mime.unknown⟩
        | none => none := by
  rw [actorSelect, Select.actor]
  by_cases hi : n < 1
  · rw [if_pos hi, if_pos (by omega)]
  · rw [if_neg hi, if_neg (by omega)]
    cases bioLinks[(n - 1).toNat]? <;> rfl

/-- What `Post.Media()` opens: the chosen `url` entry's own URL, with its own media type, or the
    default of the entry's kind, or (only then) the default of the post's kind. -/
theorem postMedia_spec {Time : Type} (L : Libs Time Url) (kind : Str) (o : List (Str × JVal)) (s : Sel)
    (h : postMedia L kind o = some s) :
    ∃ l, postMediaLink L kind o = .ok l ∧ l.uri = .ok s.link ∧
      (l.mediaType = .ok s.mt ∨
       ((∃ e, l.mediaType = .error e) ∧
        s.mt = (if isMediaKind l.kind then Mime.unknownSubtype (lower l.kind)
                else if isMediaKind kind then Mime.unknownSubtype (lower kind) else Mime.unknown))) := by
  unfold postMedia at h
  cases hl : postMediaLink L kind o with
  | error e => rw [hl] at h; simp at h
  | ok l =>
    rw [hl] at h
    -- the two calls differ in the default only
    have h' : selectWithDefault l (if isMediaKind kind then Mime.unknownSubtype (lower kind) else Mime.unknown) =
        some s := by
      rw [apply_ite (selectWithDefault l)]; exact h
    exact ⟨l, rfl, selectWithDefault_inv h'⟩

/-- The profile picture and the banner are opened with their own type or as `image/*`. -/
theorem actorImage_spec {Time : Type} (L : Libs Time Url) (o : List (Str × JVal)) (key : Str) (s : Sel)
    (h : actorImage L o key = some s) :
    ∃ ls l, links L o key = .ok ls ∧ l ∈ ls ∧ l.uri = .ok s.link ∧
      (l.mediaType = .ok s.mt ∨
       ((∃ e, l.mediaType = .error e) ∧
        s.mt = (if isMediaKind l.kind then Mime.unknownSubtype (lower l.kind)
                else Mime.unknownSubtype "image".toList))) := by
  unfold actorImage at h
  cases hls : links L o key with
  | error e => rw [hls] at h; simp at h
  | ok ls =>
    rw [hls] at h
    simp only at h
    cases hb : selectBest ls "image".toList with
    | error e => rw [hb] at h; simp at h
    | ok l =>
      rw [hb] at h
      simp only at h
      obtain ⟨hu, hm⟩ := selectWithDefault_inv h
      exact ⟨ls, l, rfl, selectBest_mem ls _ l hb, hu, hm⟩

/-- The program is started with the configured hook, the selected link and the selected type in
    place of the placeholders (restating `Hook.build` for a selection). -/
theorem open_argv (hook : List Str) (prog : Str) (args : List Str) (s : Sel) (hh : hook = prog :: args) :
    open_ hook s = .ok { argv := prog :: args.map (Hook.substitute s.link s.mt),
                         stdin := if args.contains "%url".toList then none else some s.link } := by
  subst hh
  rfl

/-- Non-vacuity: a typed and an untyped image attachment behind two body links. -/
example :
    let L : Libs Unit Url := { parseTime := fun _ => none, parseUrl := fun s => some s }
    let o : List (Str × JVal) := [("attachment".toList, .arr [
      .obj [("type".toList, .str "Image".toList), ("url".toList, .str "https://h/a".toList),
            ("mediaType".toList, .str "image/png".toList)],
      .obj [("type".toList, .str "Image".toList), ("url".toList, .str "https://h/b".toList)]])]
    postSelect L ["x".toList, "y".toList] o 3 = some ⟨"https://h/a".toList, ⟨"image/png".toList, "image".toList, "png".toList⟩⟩ ∧
    postSelect L ["x".toList, "y".toList] o 4 = some ⟨"https://h/b".toList, Mime.unknownSubtype "image".toList⟩ ∧
    postSelect L ["x".toList, "y".toList] o 5 = none := by
  decide +kernel

end C20b
