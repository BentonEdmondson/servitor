import Props.Gen16m
import Props.GenT16v
import Generated.Facts

/-
  C16 end to end on translated code: from the terminal size `main`'s poller reads to the
  bytes `printRaw` writes.  Everything between is code translated from the source on every run:
  the poller's round and the key loop's round (`GenMain.pollStep`, `GenMain.keyStep`),
  `(*State).SetWidthHeight` (`GenMain.SetWidthHeight`), `(*State).view` (`GenView.view`,
  `Props/GenT16v.lean`), `printRaw` (`GenMain.printRaw`).  The one thing assumed is that `Update`
  (and whatever it starts) leaves `width` and `height` alone and draws its frames from states with
  the size it found: `Generated/GoUpdate.lean` translates `Update` on a state type that does not
  carry the two fields at all.

  Result (`frames_after_poll_fit`): every frame drawn from a poll round that read `(w, h)` on, until
  the next poll round, is drawn from a state of exactly that size, has exactly `h` lines for `h ≥ 2`
  and is written as the clear-screen prefix and `h - 1` CR LF pairs.  (What `printRaw` does to a
  clean frame, C01: `Props/GenT01m.lean`.)
-/

namespace GenT16m
open Go.Term Gen16m

/-- An `Update` that leaves the size alone: the state it leaves and every state it draws a frame
    from have the width and height it found. -/
def SizeKept (upd : GenView.State → Nat → GenView.State × List GenView.State) : Prop :=
  ∀ s b, (upd s b).1.width = s.width ∧ (upd s b).1.height = s.height ∧
    ∀ d ∈ (upd s b).2, d.width = s.width ∧ d.height = s.height

/-- What `SizeKept` rests on, read from the source on every run: in the skeleton of ui/ui.go
    (`Generated/Facts.lean`: every function and goroutine literal with the fields of the state it
    reads and writes) `SetWidthHeight` is the only one that assigns `s.width` or `s.height`. -/
theorem only_setWidthHeight_writes_size :
    ∀ p ∈ Generated.uiSkeleton, ("wr s.width" ∈ p.2 ∨ "wr s.height" ∈ p.2) → p.1 = "SetWidthHeight" := by
  decide

/-- The interface state with the TRANSLATED `SetWidthHeight` (it never panics: `setWidthHeight_eq`). -/
def iface (upd : GenView.State → Nat → GenView.State × List GenView.State) : Iface GenView.State where
  resize s w h := match GenMain.SetWidthHeight s w h with
    | .ok p => p
    | .error _ => (s, [])
  update := upd

theorem iface_resize_size (upd : GenView.State → Nat → GenView.State × List GenView.State)
    (s : GenView.State) (w h : Int) :
    (((iface upd).resize s w h).1.width = w ∧ ((iface upd).resize s w h).1.height = h) ∧
      ∀ d ∈ ((iface upd).resize s w h).2, d.width = w ∧ d.height = h := by
  simp only [iface, setWidthHeight_eq]
  by_cases hc : s.width = w ∧ s.height = h
  · rw [if_pos hc]; exact ⟨hc, by simp⟩
  · rw [if_neg hc]; exact ⟨⟨rfl, rfl⟩, by simp⟩

theorem keys_drawn (upd : GenView.State → Nat → GenView.State × List GenView.State)
    (hupd : SizeKept upd) (w h : Int) (evs : List Event)
    (hkeys : ∀ e ∈ evs, ∃ read, e = Event.key read) (r : Run GenView.State)
    (hs : r.state.width = w ∧ r.state.height = h) :
    ∃ new, (run (iface upd) r evs).drawn = r.drawn ++ new ∧ ∀ d ∈ new, d.width = w ∧ d.height = h := by
  induction evs generalizing r with
  | nil => exact ⟨[], by simp [run_nil], by simp⟩
  | cons e evs ih =>
    obtain ⟨read, rfl⟩ := hkeys e (by simp)
    have hk := fun e he => hkeys e (List.mem_cons_of_mem _ he)
    rw [run_cons]
    rcases step_key_cases (iface upd) r read with ⟨h1, h2⟩ | ⟨b, h1, h2, -⟩
    · obtain ⟨new, hn, hd⟩ := ih hk _ (h1 ▸ hs)
      exact ⟨new, h2 ▸ hn, hd⟩
    · obtain ⟨k1, k2, k3⟩ := hupd r.state b
      obtain ⟨new, hn, hd⟩ := ih hk _ (by rw [h1]; exact ⟨k1.trans hs.1, k2.trans hs.2⟩)
      refine ⟨(upd r.state b).2 ++ new, by rw [hn, h2, List.append_assoc]; rfl, ?_⟩
      intro d hdm
      rcases List.mem_append.mp hdm with hdm | hdm
      · exact ⟨(k3 d hdm).1.trans hs.1, (k3 d hdm).2.trans hs.2⟩
      · exact hd d hdm

/-- Every frame drawn from a successful poll round on, up to the next poll round, is drawn from a
    state that has exactly the size that round read. -/
theorem drawn_after_poll (upd : GenView.State → Nat → GenView.State × List GenView.State)
    (hupd : SizeKept upd) (r : Run GenView.State) (got : SizeResult) (herr : got.err = none)
    (evs : List Event) (hkeys : ∀ e ∈ evs, ∃ read, e = Event.key read) :
    ∃ new, (run (iface upd) r (Event.poll got :: evs)).drawn = r.drawn ++ new ∧
      ∀ d ∈ new, d.width = got.width ∧ d.height = got.height := by
  obtain ⟨w, h, err⟩ := got
  simp only at herr
  subst herr
  cases hl : r.live with
  | false => exact ⟨[], by rw [run_dead _ r _ hl]; simp, by simp⟩
  | true =>
    rw [run_cons, step_poll_ok _ r w h hl]
    obtain ⟨hs, hd⟩ := iface_resize_size upd r.state w h
    obtain ⟨new, hn, hnd⟩ := keys_drawn upd hupd w h evs hkeys
      { r with state := ((iface upd).resize r.state w h).1,
               drawn := r.drawn ++ ((iface upd).resize r.state w h).2 } hs
    exact ⟨((iface upd).resize r.state w h).2 ++ new, by rw [hn, List.append_assoc],
      fun d hdm => (List.mem_append.mp hdm).elim (hd d) (hnd d)⟩

/-- The same inside an arbitrary history: `before` is anything (polls, keys), then a poll round that
    reads `(w, h)`, then key rounds. -/
theorem drawn_after_poll_in_history (upd : GenView.State → Nat → GenView.State × List GenView.State)
    (hupd : SizeKept upd) (r : Run GenView.State) (before : List Event) (got : SizeResult)
    (herr : got.err = none) (evs : List Event) (hkeys : ∀ e ∈ evs, ∃ read, e = Event.key read) :
    ∃ new, (run (iface upd) r (before ++ Event.poll got :: evs)).drawn
        = (run (iface upd) r before).drawn ++ new ∧
      ∀ d ∈ new, d.width = got.width ∧ d.height = got.height := by
  rw [run_append]
  exact drawn_after_poll upd hupd _ got herr evs hkeys

/-- While the program runs, the state itself has the size of the last poll round. -/
theorem state_size_is_last_poll (upd : GenView.State → Nat → GenView.State × List GenView.State)
    (hupd : SizeKept upd) (r : Run GenView.State) (evs : List Event)
    (hlive : (run (iface upd) r evs).live = true) :
    ((run (iface upd) r evs).state.width, (run (iface upd) r evs).state.height)
      = lastSize (r.state.width, r.state.height) evs :=
  size_is_last_poll (iface upd) (fun s => (s.width, s.height))
    (fun s w h => Prod.ext (iface_resize_size upd s w h).1.1 (iface_resize_size upd s w h).1.2)
    (fun s b => Prod.ext (hupd s b).1 (hupd s b).2.1) r evs hlive

/-- **C16 from the poller to the terminal.**  In every history, every frame drawn after a poll
    round that read `(w, h)` with `h ≥ 2` and before the next poll round — from a state in one of
    the six modes with (outside loading mode) a current page whose feed is full, sizes as Go
    strings have them — is `view` not panicking, a frame of exactly `h` lines, which `printRaw`
    writes in one piece as cursor-home, clear-screen and a text with exactly `h - 1` CR LF pairs
    and `h - 1` line feeds. -/
theorem frames_after_poll_fit (c : Colors) (ctx : Int)
    (upd : GenView.State → Nat → GenView.State × List GenView.State) (hupd : SizeKept upd)
    (r : Run GenView.State) (before : List Event) (got : SizeResult) (herr : got.err = none)
    (hw : 0 ≤ got.width) (h2 : 2 ≤ got.height) (h62 : got.height < 2 ^ 62)
    (hc : '\n' ∉ c.highlight)
    (evs : List Event) (hkeys : ∀ e ∈ evs, ∃ read, e = Event.key read) :
    ∃ new, (run (iface upd) r (before ++ Event.poll got :: evs)).drawn
        = (run (iface upd) r before).drawn ++ new ∧
      ∀ d ∈ new, ∀ m : Ui.Mode, d.mode = Gen16v.modeNum m →
        (m ≠ .loading → ∃ p, GenHistory.Current d.h = .ok p ∧ GenT16v.Full (Gen16v.pageView p).feed) →
        (∀ t ce b, Ui.viewParts c Gen16v.tangible m (Gen16v.curOf d) ctx d.width = .ok (t, ce, b) →
          t.length < 2 ^ 62 ∧ ce.length < 2 ^ 62 ∧ b.length < 2 ^ 62) →
        ∃ frame t, GenView.view c ctx d = .ok frame ∧ (Ansi.height frame : Int) = got.height ∧
          GenMain.printRaw none frame = .ok [Act.write (Main.home ++ Main.clear ++ t)] ∧
          (Main.crlfPairs t : Int) = got.height - 1 ∧ (Str.countNL t : Int) = got.height - 1 := by
  obtain ⟨new, hn, hd⟩ := drawn_after_poll_in_history upd hupd r before got herr evs hkeys
  refine ⟨new, hn, ?_⟩
  intro d hdm m hm hpage hsz
  obtain ⟨dw, dh⟩ := hd d hdm
  obtain ⟨frame, hv, hh⟩ := GenT16v.view_height c ctx d m hm hc (by rw [dw]; exact hw)
    (by rw [dh]; exact h2) (by rw [dh]; exact h62) hpage hsz
  obtain ⟨t, ht, hp, hnl⟩ := printRaw_pairs frame
  rw [dh] at hh
  have hcount : (Str.countNL frame : Int) = got.height - 1 := by
    rw [← hh]; simp only [Ansi.height]; omega
  exact ⟨frame, t, hv, hh, ht, by rw [hp]; exact hcount, by rw [hnl]; exact hcount⟩

def exUpd (s : GenView.State) (_ : Nat) : GenView.State × List GenView.State := (s, [s])

theorem exUpd_sizeKept : SizeKept exUpd := by
  intro s b
  refine ⟨rfl, rfl, fun d hd => ?_⟩
  rw [List.mem_singleton.mp hd]
  exact ⟨rfl, rfl⟩

/-- The 10 × 4 state of `GenT16v`, the key loop with its buffer as `main` makes it. -/
def exRun : Run GenView.State :=
  { state := GenT16v.exState, pollVars := ⟨⟩, keyVars := ⟨[0]⟩, drawn := [], written := [], live := true }

def exState' : GenView.State := { GenT16v.exState with width := 20, height := 5 }

theorem ex_run :
    run (iface exUpd) exRun [Event.poll ⟨20, 5, none⟩, Event.key [106], Event.key [3]]
      = { state := exState', pollVars := ⟨⟩, keyVars := ⟨[3]⟩, drawn := [exState', exState'],
          written := [Main.home ++ Main.clear], live := false } := by
  -- the first two rounds by evaluation; the third writes, and what it writes is `keyStep_byte`'s
  show step (iface exUpd)
    { exRun with state := exState', drawn := [exState', exState'], keyVars := ⟨[106]⟩ } (.key [3]) = _
  simp only [step, exRun, if_true, keyStep_byte,
    show Main.printRaw [] = Main.home ++ Main.clear from List.append_nil _]
  rfl

/-- The terminal grows to 20 × 5, then `j` is pressed: two frames are drawn (one by
    `SetWidthHeight`, one by `Update`), both 5 lines tall and written with 4 CR LF pairs; then
    ctrl+c writes the bare prefix and the program leaves. -/
example :
    let r := run (iface exUpd) exRun [Event.poll ⟨20, 5, none⟩, Event.key [106], Event.key [3]]
    (r.drawn.map fun d => (d.width, d.height)) = [(20, 5), (20, 5)] ∧
    r.written = [Main.home ++ Main.clear] ∧ r.live = false ∧
    ∀ d ∈ r.drawn, ∃ frame t, GenView.view ⟨[], [], [], []⟩ 5 d = .ok frame ∧
      (Ansi.height frame : Int) = 5 ∧
      GenMain.printRaw none frame = .ok [Act.write (Main.home ++ Main.clear ++ t)] ∧
      Main.crlfPairs t = 4 := by
  intro r
  rw [show r = _ from ex_run]
  refine ⟨rfl, rfl, rfl, fun d hd => ?_⟩
  obtain rfl : d = exState' := by simpa using hd
  obtain ⟨frame, hv, hh⟩ := GenT16v.view_height ⟨[], [], [], []⟩ 5 exState' .command rfl
    (by decide) (by decide) (by decide) (by decide) (fun _ => GenT16v.exState_page)
    (GenT16v.exState_sizes 20 5)
  obtain ⟨t, ht, hp, -⟩ := printRaw_pairs frame
  have : (Ansi.height frame : Int) = 5 := hh
  simp only [Ansi.height] at this
  exact ⟨frame, t, hv, hh, ht, by rw [hp]; omega⟩

end GenT16m
