import Model
import Model.GoUrl
import Generated.GoWebfinger
import Generated.GoJtpfront
import Props.C04
import Props.Gen04
import Props.GenT04
import Props.Gen04w

/-
  C04 stated directly about the WebFinger lookup as translated from client/client.go
  (`Generated/GoWebfinger.lean`) composed with the front part of `jtp.Get` as translated from
  jtp/jtp.go (`Generated/GoJtpfront.lean`), carried across `Props/Gen04w.lean` and
  `Props/Gen04.lean`: for every handle `user@domain`, every world (cache, dialer, failures),
  timeout and remaining budget.  The `user` part of the handle reaches the wire only inside the
  query escaping, so the one hypothesis left is that the DOMAIN has no CR/LF.
-/

namespace GenT04w
open Jtp GenJtpFront GenWebfinger Gen04 Gen04w Go.Url
open Go.Net (URL)

variable {Time Url Src Doc Conn : Type}

/-- What `url.QueryEscape` can produce: unreserved characters, `+`, `%` (the hexadecimal digits
    are unreserved). -/
def querySafe (c : Char) : Bool := unreserved c || c = '+' || c = '%'

theorem hexDigit_safe (n : Nat) : querySafe (hexDigit n) = true := by
  unfold hexDigit
  split <;> decide

theorem escapeChar_safe (x : Char) : ∀ c ∈ escapeChar x, querySafe c = true := by
  intro c hc
  unfold escapeChar at hc
  split at hc
  · rename_i hu
    simp only [List.mem_singleton] at hc
    subst hc
    simp [querySafe, hu]
  · split at hc
    · simp only [List.mem_singleton] at hc
      subst hc; decide
    · simp only [List.mem_flatMap, pct] at hc
      obtain ⟨b, _, hb⟩ := hc
      simp only [List.mem_cons, List.not_mem_nil, or_false] at hb
      rcases hb with rfl | rfl | rfl
      · decide
      · exact hexDigit_safe _
      · exact hexDigit_safe _

theorem queryEscape_safe (s : Str) : ∀ c ∈ queryEscape s, querySafe c = true := by
  intro c hc
  simp only [queryEscape, List.mem_flatMap] at hc
  obtain ⟨x, _, hx⟩ := hc
  exact escapeChar_safe x c hx

/-- No other character occurs in what `url.QueryEscape` yields: no line break, no space, none of
    `& = # ? / @ :`. -/
theorem queryEscape_no_delimiter (s : Str) (c : Char) (hc : querySafe c = false) : c ∉ queryEscape s :=
  fun h => by rw [queryEscape_safe s c h] at hc; cases hc

/-- The request-URI of a lookup has no CR and no LF, whatever the handle. -/
theorem request_uri_no_crlf (user domain : Str) :
    C04.noCRLF (Go.str "/.well-known/webfinger?" ++ query user domain) := by
  unfold C04.noCRLF query Go.str
  -- literals as character lists: `String.toList` on a literal is slow to evaluate
  repeat rewrite [String.toList_ofList]
  simp only [List.mem_append, not_or]
  exact ⟨⟨by decide, by decide, queryEscape_no_delimiter _ _ (by decide)⟩,
         ⟨by decide, by decide, queryEscape_no_delimiter _ _ (by decide)⟩⟩

/-- `ResolveWebfinger` asks `jtp.Get` once: two worlds that answer that one call alike give the
    same result (and a handle without `@` asks nothing, `Gen04w.resolve_no_at`). -/
theorem asks_once (L : Obj.Libs Time Url) (U : Lib) (X X' : Ext Src) (username : Str)
    (h : ∀ q, ResolveWebfinger_request U username = .ok q →
      X.jtpGet q.link q.accept q.tolerated q.maxRedirects = X'.jtpGet q.link q.accept q.tolerated q.maxRedirects) :
    ResolveWebfinger L U X username = ResolveWebfinger L U X' username := by
  unfold ResolveWebfinger
  cases hq : ResolveWebfinger_request U username with
  | error e => rfl
  | ok q => simp only []; rw [h q hq]

/-- The one call it makes, for a handle `user@domain`. -/
theorem the_call (U : Lib) (user domain : Str) (h : '@' ∉ user) (q : Request)
    (hq : ResolveWebfinger_request U (user ++ '@' :: domain) = .ok q) :
    q.link = wfLink U user domain ∧ q.accept = wfAccept ∧ q.tolerated = wfTolerated ∧ q.maxRedirects = 20 := by
  rw [request_eq U user domain h] at hq
  obtain rfl := Except.ok.inj hq
  simp only [and_self]

/-- Each hop of that call dials at most once and writes at most once. -/
theorem one_request_per_hop (U : Lib) (W : GenJtpFront.Ext Doc Conn) (timeout : Int) (user domain : Str) (n : Nat) :
    ((actsOf (Get_front W timeout (wfLink U user domain) wfAccept wfTolerated n)).filter GenT04.isDial).length ≤ 1 ∧
    ((actsOf (Get_front W timeout (wfLink U user domain) wfAccept wfTolerated n)).filter GenT04.isWrite).length ≤ 1 :=
  GenT04.one_write_per_connection W timeout _ _ _ n

/-- The link of a lookup is an https link, and a connection for it goes over tcp/TLS to the host
    name and port of the handle's DOMAIN (port 443 when it names none): nothing of the `user`
    part decides where the request goes. -/
theorem dials_the_domain_over_https (U : Lib) (W : GenJtpFront.Ext Doc Conn) (timeout : Int) (user domain : Str)
    (n : Nat) (d : Go.Net.Dialer) (network addr : Str)
    (h : Act.dial d network addr ∈ actsOf (Get_front W timeout (wfLink U user domain) wfAccept wfTolerated n)) :
    (wfLink U user domain).Scheme = Go.str "https" ∧ network = Go.str "tcp" ∧
    addr = Go.Net.joinHostPort (splitHostPort domain).1
      (if (splitHostPort domain).2 = [] then Go.str "443" else (splitHostPort domain).2) := by
  obtain ⟨_, h2, h3⟩ := Gen04.dial_target W timeout _ _ _ n d network addr h
  exact ⟨rfl, h2, h3⟩

/-- For a domain without colon and bracket that is `domain:443`. -/
theorem dials_plain_domain (U : Lib) (W : GenJtpFront.Ext Doc Conn) (timeout : Int) (user domain : Str)
    (n : Nat) (d : Go.Net.Dialer) (network addr : Str) (hc : ':' ∉ domain) (hb : domain.head? ≠ some '[')
    (h : Act.dial d network addr ∈ actsOf (Get_front W timeout (wfLink U user domain) wfAccept wfTolerated n)) :
    addr = domain ++ Go.str ":443" := by
  have h3 := (dials_the_domain_over_https U W timeout user domain n d network addr h).2.2
  rw [plain_domain domain hc hb] at h3
  simp only [if_true] at h3
  rw [h3, Gen04.joinHostPort_plain domain _ hc]
  unfold Go.str
  repeat rewrite [String.toList_ofList]
  rfl

/-- (C04 1 on the lookup) what is written for a handle `user@domain` whose domain has no CR/LF is
    exactly: the request line with the encoded query, the Host header with the domain, the Accept
    header with the JRD type, the empty line — no further header line, no body.  The `user` part
    is unconstrained: it reaches the wire only inside `queryEscape`. -/
theorem lookup_request_lines (U : Lib) (W : GenJtpFront.Ext Doc Conn) (timeout : Int) (user domain : Str) (n : Nat)
    (hd : C04.noCRLF domain) (c : Conn) (bytes : Str)
    (h : Act.write c bytes ∈ actsOf (Get_front W timeout (wfLink U user domain) wfAccept wfTolerated n)) :
    parseReq bytes =
      some ⟨Go.str "GET " ++ (Go.str "/.well-known/webfinger?" ++
              (Go.str "resource=" ++ queryEscape (resource user domain))) ++ Go.str " HTTP/1.0",
            [Go.str "Host: " ++ domain, Go.str "Accept: " ++ Go.str "application/jrd+json"], []⟩ := by
  rw [Gen04w.written_eq U W timeout user domain n c bytes h]
  have ha : C04.noCRLF wfAccept := by
    unfold C04.noCRLF wfAccept Go.str
    rewrite [String.toList_ofList]
    decide
  exact C04.request_exact _ _ _ (request_uri_no_crlf user domain) hd ha

/-- The `Host` of the lookup's link is the handle's domain, unchanged.  So a line break in the
    DOMAIN would reach the Host header, which is why `lookup_request_lines` asks that it has none
    (such a domain is refused by the resolver before any byte is written; the differential check
    runs handles of this kind). -/
theorem domain_is_copied_into_host (U : Lib) (user domain : Str) :
    (wfLink U user domain).Host = domain := rfl

set_option maxRecDepth 20000 in
/-- For `alice@example.org`, with a timeout of 10 s and a dialer that answers, the translated
    `jtp.Get` dials `example.org:443`, sets the deadline and writes exactly the WebFinger query. -/
example :
    Get_front (Doc := Unit) (Conn := Nat)
      { cacheGet := fun _ => none, dial := fun _ _ _ => some 7, setDeadlineFails := false, writeFails := false,
        newReader := fun _ => [] }
      10000000000
      (wfLink { string := fun _ => "https://example.org/.well-known/webfinger?resource=acct%3Aalice%40example.org".toList,
                escapedPath := fun f => f.Path } "alice".toList "example.org".toList)
      wfAccept wfTolerated 20
    = .reading "application/jrd+json,application/json https://example.org/.well-known/webfinger?resource=acct%3Aalice%40example.org".toList 7
        [.dial { Timeout := 10000000000 } "tcp".toList "example.org:443".toList,
         .setDeadline 7 10000000000,
         .write 7 "GET /.well-known/webfinger?resource=acct%3Aalice%40example.org HTTP/1.0\r\nHost: example.org\r\nAccept: application/jrd+json\r\n\r\n".toList] := by
  repeat rewrite [String.toList_ofList]
  rfl

/-- `ResolveWebfinger_request` produces the link of the example above for `alice@example.org`. -/
example (U : Lib) :
    ResolveWebfinger_request U ("alice".toList ++ '@' :: "example.org".toList) =
      .ok { link := wfLink U "alice".toList "example.org".toList, accept := wfAccept, tolerated := wfTolerated,
            maxRedirects := 20 } :=
  request_eq U _ _ (by decide)

end GenT04w
