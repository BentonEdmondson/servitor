import Model
import Generated.GoNewitem
import Props.Gen02
import Props.Gen09
import Props.Gen17

/-
  The tie by translation for C02 and C09, the constructors themselves: `NewPost`,
  `NewPostFromObject`, `NewActor`, `NewActorFromObject`, `NewActivity`, `NewActivityFromObject`,
  `New`, `NewTangible`, `getActors`, `getActor`, `getPostOrActor`, `getCollection`,
  `getAndFetchUnkown` and the link getters are translated from pub/*.go on every run
  (`Generated/GoNewitem.lean`, namespace `GenNewitem`, front end extract/go2lean22.go).  The
  theorems below say that, over a world of the model, the translated constructors never panic
  and return the model's verdict: the model's record when the model builds one, and otherwise an
  error of the class the model answers (`ErrWrongType` / `ErrKeyNotPresent` / neither).

  What the translated code takes from outside is instantiated from the world: `client.FetchUnknown`
  is the translated one over `Gen02.ext w` (tied to the model by `Gen02.fetchUnknown_libs`),
  `NewCollection` / `NewCollectionFromObject` are the model's with the class of their error; the
  presentation part (`GetMarkup`, `NewLink`, the link selections, `strings.ToLower`) is ANY
  implementation (`Pres`) whose selections return and whose `GetMarkup` reports the links the
  world gives the object.

  `getActors`, `getPostOrActor`, `New` and `NewTangible` are also part of unit listing
  (`Props/Gen09.lean`), where the constructors they call are parameters; here the constructors are
  the translated ones.
-/

namespace Gen02n
open Pub GenNewitem GenListing

def libs (w : World) : Obj.Libs Int U := { parseTime := w.parseTime, parseUrl := w.parse }

def cls {α : Type} : Go.Res α → Except BErr α
  | .ok v => .ok v
  | .error e => .error e.cls

def ofB {α : Type} : Except BErr α → Go.Res α
  | .ok v => .ok v
  | .error e => .error (.ofBuild e)

/-- The presentation externals: any implementation whose link selections return. -/
structure Pres where
  Markup : Type
  Link : Type
  GetMarkup : O → Str → Str → Go.Res (Markup × List Str)
  NewLink : JVal → Go.Res Link
  NewLinkOfObject : O → Go.Res Link
  SelectBestLink : List Link → Str → Except Panic (Go.Res Link)
  SelectFirstLink : List Link → Except Panic (Go.Res Link)
  ToLower : Str → Str
  best_returns : ∀ ls s, ∃ r, SelectBestLink ls s = .ok r
  first_returns : ∀ ls, ∃ r, SelectFirstLink ls = .ok r

def Pres.Agrees (P : Pres) (w : World) : Prop :=
  ∀ o k m, Go.resLinks (P.GetMarkup o k m) = w.links o k

def ext (w : World) (P : Pres) : Ext where
  client := Gen02.ext w
  Markup := P.Markup
  Link := P.Link
  GetMarkup := P.GetMarkup
  NewLink := P.NewLink
  NewLinkOfObject := P.NewLinkOfObject
  SelectBestLink := P.SelectBestLink
  SelectFirstLink := P.SelectFirstLink
  ToLower := P.ToLower
  NewCollection := fun v s _ => ofB (newCollection w v s)
  NewCollectionFromObject := fun o id _ => ofB (newCollectionFromObject o id)

theorem bind_ok {α β : Type} (a : α) (f : α → Except Panic β) : (Except.ok a >>= f) = f a := rfl
theorem pure_eq {α : Type} (a : α) : (pure a : Except Panic α) = .ok a := rfl

theorem ofObj_ok {α : Type} (v : α) : Go.ofObj (.ok v : Obj.R α) = .ok v := rfl
theorem ofObj_error {α : Type} (e : Obj.Err) : Go.ofObj (.error e : Obj.R α) = .error (.ofObj e) := rfl

theorem cls_ofB {α : Type} (r : Except BErr α) : cls (ofB r) = r := by
  cases r with
  | ok v => rfl
  | error e => cases e <;> rfl

theorem toObjR_ofObj {α : Type} (r : Obj.R α) : Go.toObjR (Go.ofObj r) = r := by
  cases r with
  | ok v => rfl
  | error e => cases e <;> rfl

def fetched (w : World) (input : JVal) (source : Option U) : Go.Res (O × Option U) :=
  match fetchUnknown w input source with
  | .ok r => .ok r
  | .error _ => .error .ofFetch

theorem fetch_raw (w : World) (P : Pres) (input : JVal) (source : Option U) :
    GenClient.FetchUnknown (libs w) (ext w P).client input source = .ok (Gen02.triple (fetchUnknown w input source)) :=
  Gen02.fetchUnknown_libs (libs w) w rfl input source

theorem ofFetch_triple (w : World) (input : JVal) (source : Option U) :
    Go.ofFetch (Gen02.triple (fetchUnknown w input source)) = fetched w input source := by
  unfold fetched
  cases fetchUnknown w input source with
  | ok r => rfl
  | error e => rfl

theorem fetch_eq (w : World) (P : Pres) (input : JVal) (source : Option U) :
    (do let r ← GenClient.FetchUnknown (libs w) (ext w P).client input source; pure (Go.ofFetch r) : Except Panic _) =
      .ok (fetched w input source) := by
  rw [fetch_raw, ← ofFetch_triple]
  rfl

theorem getTime_eq (w : World) (o : O) (k : Str) :
    GenObject.GetTime (libs w) o k = Pub.getTime w o k := by
  rw [Gen17.getTime_eq]
  unfold Obj.getTime Pub.getTime
  cases Obj.getString o k with
  | error e => rfl
  | ok s => dsimp only [libs]; cases w.parseTime s <;> rfl

/- The link getters only have to return: what they return is presentation, of which the model
   keeps nothing. -/

theorem fillLoop_returns {α β ρ : Type} (body : α → Except Panic (Except ρ β))
    (h : ∀ x, ∃ r, body x = .ok r) (xs : List α) : ∃ r, Go.fillLoop body xs = .ok r := by
  induction xs with
  | nil => exact ⟨_, rfl⟩
  | cons x xs ih =>
    obtain ⟨r, hr⟩ := h x
    obtain ⟨rs, hrs⟩ := ih
    unfold Go.fillLoop
    rw [hr]
    cases r with
    | error e => exact ⟨_, rfl⟩
    | ok b =>
      simp only [hrs]
      cases rs with
      | error e => exact ⟨_, rfl⟩
      | ok bs => exact ⟨_, rfl⟩

theorem bind_returns {α β : Type} (m : Except Panic α) (k : α → Except Panic β)
    (hm : ∃ a, m = .ok a) (hk : ∀ a, ∃ b, k a = .ok b) : ∃ b, (m >>= k) = .ok b := by
  obtain ⟨a, ha⟩ := hm
  rw [ha]
  exact hk a

theorem getLinks_returns (w : World) (P : Pres) (o : O) (k : Str) :
    ∃ r, getLinks (libs w) (ext w P) o k = .ok r := by
  unfold getLinks
  cases Go.ofObj (GenObject.GetList (libs w) o k) with
  | error e => exact ⟨_, rfl⟩
  | ok l =>
    refine bind_returns _ _ (fillLoop_returns _ (fun x => ?_) l) fun a => ?_
    · cases (ext w P).NewLink x <;> exact ⟨_, rfl⟩
    · cases a <;> exact ⟨_, rfl⟩

theorem getLinksShorthand_returns (w : World) (P : Pres) (o : O) (k : Str) :
    ∃ r, getLinksShorthand (libs w) (ext w P) o k = .ok r := by
  unfold getLinksShorthand
  cases Go.ofObj (GenObject.GetList (libs w) o k) with
  | error e => exact ⟨_, rfl⟩
  | ok l =>
    refine bind_returns _ _ (fillLoop_returns _ (fun x => ?_) l) fun a => ?_
    · cases x with
      | obj kvs => dsimp only; cases (ext w P).NewLink (JVal.obj kvs) <;> exact ⟨_, rfl⟩
      | str s => dsimp only; cases (ext w P).NewLinkOfObject _ <;> exact ⟨_, rfl⟩
      | _ => exact ⟨_, rfl⟩
    · cases a <;> exact ⟨_, rfl⟩

theorem getBestLink_returns (w : World) (P : Pres) (o : O) (k s : Str) :
    ∃ r, getBestLink (libs w) (ext w P) o k s = .ok r := by
  unfold getBestLink
  refine bind_returns _ _ (getLinks_returns w P o k) fun a => ?_
  cases a with
  | error e => exact ⟨_, rfl⟩
  | ok ls => exact P.best_returns ls s

theorem getBestLinkShorthand_returns (w : World) (P : Pres) (o : O) (k s : Str) :
    ∃ r, getBestLinkShorthand (libs w) (ext w P) o k s = .ok r := by
  unfold getBestLinkShorthand
  refine bind_returns _ _ (getLinksShorthand_returns w P o k) fun a => ?_
  cases a with
  | error e => exact ⟨_, rfl⟩
  | ok ls => exact P.best_returns ls s

theorem getFirstLinkShorthand_returns (w : World) (P : Pres) (o : O) (k : Str) :
    ∃ r, getFirstLinkShorthand (libs w) (ext w P) o k = .ok r := by
  unfold getFirstLinkShorthand
  refine bind_returns _ _ (getLinksShorthand_returns w P o k) fun a => ?_
  cases a with
  | error e => exact ⟨_, rfl⟩
  | ok ls => exact P.first_returns ls

/-- `getCollection` as translated: no panic, and what the record keeps of it is the model's
    `getCollection` — the reference under the key, loaded with the source handed in. -/
theorem getCollection_eq (w : World) (P : Pres) (o : O) (k : Str) (source : Option U) (c : Construct) :
    ∃ r, GenNewitem.getCollection (libs w) (ext w P) o k source c = .ok r ∧
      Go.toObjR r = Pub.getCollection w o k source := by
  unfold GenNewitem.getCollection Pub.getCollection
  rw [Gen17.getAny_eq]
  cases Obj.getAny o k with
  | error e => exact ⟨_, rfl, by cases e <;> rfl⟩
  | ok v =>
    simp only [ofObj_ok, ext, ofB]
    cases newCollection w v source with
    | ok cm => exact ⟨_, rfl, rfl⟩
    | error e => exact ⟨_, rfl, by cases e <;> rfl⟩

/-- `getAndFetchUnkown` as translated: the reference under the key fetched with the source handed in. -/
theorem getAndFetchUnkown_eq (w : World) (P : Pres) (o : O) (k : Str) (source : Option U) :
    ∃ r, getAndFetchUnkown (libs w) (ext w P) o k source = .ok r ∧
      Go.toObjR r = (match Obj.getAny o k with
        | .error e => .error e
        | .ok v => match fetchUnknown w v source with
          | .ok r => .ok r
          | .error _ => .error .wrong) := by
  unfold getAndFetchUnkown
  rw [Gen17.getAny_eq]
  cases Obj.getAny o k with
  | error e => exact ⟨_, rfl, by cases e <;> rfl⟩
  | ok v =>
    simp only [ofObj_ok, fetch_raw, bind_ok, pure_eq, ofFetch_triple, fetched]
    cases fetchUnknown w v source <;> exact ⟨_, rfl, rfl⟩

/-- A constructor `NewX(input, source)` is `NewXFromObject` on what `FetchUnknown` accepts, under
    the id it accepts. -/
theorem fromFetch {α : Type} (w : World) (P : Pres) (F : O → Option U → Except Panic (Go.Res α))
    (f : O → Option U → Except BErr α) (h : ∀ o id, ∃ r, F o id = .ok r ∧ cls r = f o id)
    (input : JVal) (source : Option U) :
    ∃ r, ((do match Go.ofFetch (← GenClient.FetchUnknown (libs w) (ext w P).client input source) with
            | .error err => pure (.error err)
            | .ok (o, id) => pure (← F o id)) : Except Panic (Go.Res α)) = .ok r ∧
      cls r = match fetchUnknown w input source with
        | .error _ => .error .other
        | .ok (o, id) => f o id := by
  simp only [fetch_raw, bind_ok, ofFetch_triple, fetched]
  cases fetchUnknown w input source with
  | error e => exact ⟨_, rfl, rfl⟩
  | ok r => exact h r.1 r.2

/-- Every `NewXFromObject` begins by reading the `type`: the accessor's error is returned as it
    is, and its class is what the model's constructor answers. -/
theorem onType {α : Type} (w : World) (o : O) (body : Str → Except Panic (Go.Res α))
    (model : Str → Except BErr α) (h : ∀ kind, ∃ r, body kind = .ok r ∧ cls r = model kind) :
    ∃ r, (match Go.ofObj (GenObject.GetString (libs w) o (Go.str "type")) with
          | .error err => pure (.error err)
          | .ok kind => body kind : Except Panic (Go.Res α)) = .ok r ∧
      cls r = match Obj.getString o "type".toList with
        | .error .absent => .error .missingType
        | .error .wrong => .error .other
        | .ok kind => model kind := by
  rw [Gen17.getString_eq]
  unfold Go.str
  cases Obj.getString o "type".toList with
  | error e => cases e <;> exact ⟨_, rfl, rfl⟩
  | ok kind => exact h kind

/-- Every `NewXFromObject` goes on only with a `type` on the list of its kinds: `ErrWrongType`
    otherwise. -/
theorem kindTest {α : Type} (kinds : List Str) (kind fmt : Str) (body : Except Panic (Go.Res α))
    (model : Except BErr α) (h : ∃ r, body = .ok r ∧ cls r = model) :
    ∃ r, (if !Go.containsStr kinds kind then pure (.error (.errorf1 fmt (.sentinel .wrongType))) else body :
          Except Panic (Go.Res α)) = .ok r ∧
      cls r = if !kinds.contains kind then .error .wrongType else model := by
  unfold Go.containsStr
  cases kinds.contains kind
  · exact ⟨_, rfl, rfl⟩
  · exact h

/-- **`NewActorFromObject` as translated is the model's `newActorFromObject`**: no panic; the
    model's actor (kind, id, name, outbox loaded with the actor's id as source, links of the
    summary, time of joining, the object it was built from), or an error of the model's class. -/
theorem newActorFromObject_eq (w : World) (P : Pres) (hP : P.Agrees w) (o : O) (id : Option U) :
    ∃ r, NewActorFromObject (libs w) (ext w P) o id = .ok r ∧ cls r = newActorFromObject w o id := by
  unfold NewActorFromObject newActorFromObject
  refine onType w o _ _ fun kind => kindTest actorKinds kind _ _ _ ?_
  obtain ⟨r1, h1⟩ := getBestLink_returns w P o (Go.str "icon") (Go.str "image")
  obtain ⟨r2, h2⟩ := getBestLink_returns w P o (Go.str "image") (Go.str "image")
  obtain ⟨r3, h3, h3'⟩ := getCollection_eq w P o (Go.str "outbox") id (Construct.NewActorFromObject_outbox id)
  have hm := hP o (Go.str "summary") (Go.str "mediaType")
  simp only [h1, h2, h3, bind_ok, pure_eq]
  refine ⟨_, rfl, ?_⟩
  simp only [cls, h3', Gen17.getString_eq, getTime_eq, toObjR_ofObj, ext] at hm ⊢
  rw [hm]
  rfl

theorem newActor_eq (w : World) (P : Pres) (hP : P.Agrees w) (input : JVal) (source : Option U) :
    ∃ r, NewActor (libs w) (ext w P) input source = .ok r ∧ cls r = newActor w input source :=
  fromFetch w P _ _ (newActorFromObject_eq w P hP) input source

/-- `getActor` as translated: the reference under the key, built as an actor with the source handed in. -/
theorem getActor_eq (w : World) (P : Pres) (hP : P.Agrees w) (o : O) (k : Str) (source : Option U) :
    ∃ r, getActor (libs w) (ext w P) o k source = .ok r ∧
      Go.toUnitR r = (match Obj.getAny o k with
        | .error _ => .error ()
        | .ok v => match newActor w v source with
          | .ok a => .ok a
          | .error _ => .error ()) := by
  unfold getActor
  rw [Gen17.getAny_eq]
  cases Obj.getAny o k with
  | error e => exact ⟨_, rfl, rfl⟩
  | ok v =>
    obtain ⟨r, hr, hr'⟩ := newActor_eq w P hP v source
    simp only [ofObj_ok, hr, bind_ok]
    rw [← hr']
    cases r <;> exact ⟨_, rfl, rfl⟩

theorem authorOf_eq : authorOf = Gen09.toAorF := by
  funext t; cases t <;> rfl

/-- **`getActors` as translated is the model's `getActors`**: no panic, one entry per element of
    the list under the key, in order, each built as an actor with the source handed in. -/
theorem getActors_eq (w : World) (P : Pres) (hP : P.Agrees w) (o : O) (k : Str) (source : Option U) :
    ∃ ts, GenNewitem.getActors (libs w) (ext w P) o k source = .ok ts ∧
      ts.map authorOf = Pub.getActors w o k source := by
  unfold GenNewitem.getActors Pub.getActors
  rw [Gen17.getList_eq]
  cases Obj.getList o k with
  | error e => cases e <;> exact ⟨_, rfl, rfl⟩
  | ok l =>
    simp only [ofObj_ok]
    generalize hr : Go.fanout l _ = r
    obtain ⟨ts, rfl, hm⟩ := Gen09.fanout_map l _ authorOf (fun x => match newActor w x source with
        | .ok a => .actor a
        | .error _ => .failure) (fun i hi => by
      obtain ⟨r, hr, hr'⟩ := newActor_eq w P hP l[i] source
      simp only [Gen09.index_getElem l i hi, bind_ok, hr]
      rw [← hr']
      cases r <;> exact ⟨_, rfl, rfl⟩) hr
    exact ⟨ts, rfl, hm⟩

/-- `replies`, and `comments` when that key is absent: what the record keeps of the fallback. -/
theorem toObjR_fallback (c1 c2 : Go.Res CollM) :
    Go.toObjR (if c1.errIs .keyNotPresent = true then c2 else c1) =
      match Go.toObjR c1 with
      | .error .absent => Go.toObjR c2
      | r => r := by
  cases c1 with
  | ok v => rfl
  | error e =>
    cases h : e.is .keyNotPresent <;> simp only [Go.Res.errIs, Go.toObjR, Go.Error.toObj, h, Bool.false_eq_true, if_true, if_false]

theorem ite_ok_bind {α β : Type} (c : Prop) [Decidable c] (a b : α) (k : α → Except Panic β) :
    ((if c then Except.ok a else .ok b) >>= k) = k (if c then a else b) := by
  split <;> rfl

/-- **`NewPostFromObject` as translated is the model's `newPostFromObject`**: no panic; the
    model's post — reply target, authors, audience and replies each loaded with the post's id as
    source — or an error of the model's class; in particular it is refused with an error that is
    neither sentinel exactly when an author fails `creatorOk` (see `forged_iff`). -/
theorem newPostFromObject_eq (w : World) (P : Pres) (hP : P.Agrees w) (o : O) (id : Option U) :
    ∃ r, NewPostFromObject (libs w) (ext w P) o id = .ok r ∧ cls r = newPostFromObject w o id := by
  unfold NewPostFromObject newPostFromObject
  refine onType w o _ _ fun kind => ?_
  unfold Go.str
  by_cases htomb : kind = "Tombstone".toList
  · rw [if_pos (decide_eq_true htomb), if_pos htomb]
    exact ⟨_, rfl, rfl⟩
  · rw [if_neg (by rw [decide_eq_true_eq]; exact htomb), if_neg htomb]
    refine kindTest postKinds kind _ _ _ ?_
    obtain ⟨rp, hp, hp'⟩ := getAndFetchUnkown_eq w P o "inReplyTo".toList id
    obtain ⟨rm, hm⟩ : ∃ r, (if (decide (kind = "Audio".toList) || decide (kind = "Video".toList) || decide (kind = "Image".toList)) = true
        then getBestLinkShorthand (libs w) (ext w P) o "url".toList ((ext w P).ToLower kind)
        else getFirstLinkShorthand (libs w) (ext w P) o "url".toList) = .ok r := by
      split
      · exact getBestLinkShorthand_returns w P o _ _
      · exact getFirstLinkShorthand_returns w P o _
    obtain ⟨cr, hcr, hcr'⟩ := getActors_eq w P hP o "attributedTo".toList id
    obtain ⟨rc, hrc, hrc'⟩ := getActors_eq w P hP o "audience".toList id
    obtain ⟨ra, ha⟩ := getLinks_returns w P o "attachment".toList
    obtain ⟨c1, hc1, hc1'⟩ := getCollection_eq w P o "replies".toList id (Construct.NewPostFromObject_constructComment id)
    obtain ⟨c2, hc2, hc2'⟩ := getCollection_eq w P o "comments".toList id (Construct.NewPostFromObject_constructComment id)
    have hb := hP o "content".toList "mediaType".toList
    simp only [hp, hm, hcr, hrc, ha, hc1, hc2, ite_ok_bind, bind_ok, pure_eq, Gen09.creators_eq]
    rw [← authorOf_eq, hcr']
    by_cases hall : (Pub.getActors w o "attributedTo".toList id).all (creatorOk id) = true
    · simp only [hall, if_true]
      refine ⟨_, rfl, ?_⟩
      simp only [cls, hp', hrc', toObjR_fallback, hc1', hc2', toObjR_ofObj, Gen17.getString_eq, getTime_eq, ext] at hb ⊢
      rw [hb]
      rfl
    · simp only [hall, Bool.false_eq_true, if_false]
      exact ⟨_, rfl, rfl⟩

theorem newPost_eq (w : World) (P : Pres) (hP : P.Agrees w) (input : JVal) (source : Option U) :
    ∃ r, NewPost (libs w) (ext w P) input source = .ok r ∧ cls r = newPost w input source :=
  fromFetch w P _ _ (newPostFromObject_eq w P hP) input source

/-- `errors.Is(err, ErrWrongType)` asks for the class `wrongType`. -/
theorem is_wrongType_eq (e : Go.Error) : e.is .wrongType = decide (e.cls = .wrongType) := by
  unfold Go.Error.cls
  cases e.is .wrongType
  · cases e.is .keyNotPresent <;> rfl
  · rfl

/-- The part of `getPostOrActor` after the reference is known, which the translation repeats on
    each of its three paths: fetch with the source handed in, a post first, an actor only when the
    object is no post by type. -/
def fetchPostOrActor (L : Obj.Libs Int U) (X : Ext) (reference : JVal) (source : Option U) :
    Except Panic Tangible := do
  match Go.ofFetch (← GenClient.FetchUnknown L X.client reference source) with
  | .error err => pure (.failure ⟨err⟩)
  | .ok (o, id) =>
    match ← NewPostFromObject L X o id with
    | .error postErr =>
      if postErr.is .wrongType then
        match ← NewActorFromObject L X o id with
        | .error actorErr =>
          if actorErr.is .wrongType then
            pure (.failure ⟨.errorf2 (Go.str "%w, %w") postErr actorErr⟩)
          else pure (.failure ⟨actorErr⟩)
        | .ok a => pure (.actor a)
      else pure (.failure ⟨postErr⟩)
    | .ok p => pure (.post p)

theorem getPostOrActor_def (L : Obj.Libs Int U) (X : Ext) (o : O) (key : Str) (source : Option U) :
    GenNewitem.getPostOrActor L X o key source =
      match Go.ofObj (GenObject.GetAny L o key) with
      | .error err => pure (.failure ⟨err⟩)
      | .ok reference =>
        match reference with
        | .obj asMap =>
          match Go.ofObj (GenObject.GetString L asMap (Go.str "type")) with
          | .error err => pure (.failure ⟨err⟩)
          | .ok kind =>
            if decide (kind = Go.str "Create") then
              match Go.ofObj (GenObject.GetAny L asMap (Go.str "object")) with
              | .error err => pure (.failure ⟨err⟩)
              | .ok reference => fetchPostOrActor L X reference source
            else fetchPostOrActor L X reference source
        | _ => fetchPostOrActor L X reference source := by rfl

theorem fetchPostOrActor_eq (w : World) (P : Pres) (hP : P.Agrees w) (r : JVal) (source : Option U) :
    ∃ t, fetchPostOrActor (libs w) (ext w P) r source = .ok t ∧
      targetOf t = C02aux.fetchTarget w r source := by
  unfold fetchPostOrActor C02aux.fetchTarget
  simp only [fetch_raw, bind_ok, ofFetch_triple, fetched]
  cases fetchUnknown w r source with
  | error e => exact ⟨_, rfl, rfl⟩
  | ok r =>
    obtain ⟨o', id'⟩ := r
    obtain ⟨rp, hrp, hrp'⟩ := newPostFromObject_eq w P hP o' id'
    obtain ⟨ra, hra, hra'⟩ := newActorFromObject_eq w P hP o' id'
    simp only [hrp, hra, bind_ok, ← hrp', ← hra']
    cases rp with
    | ok p => exact ⟨_, rfl, rfl⟩
    | error pe =>
      simp only [cls, is_wrongType_eq]
      generalize pe.cls = c
      cases c with
      | wrongType =>
        cases ra with
        | ok a => exact ⟨_, rfl, rfl⟩
        | error ae => simp only; generalize ae.cls = c'; cases c' <;> exact ⟨_, rfl, rfl⟩
      | _ => exact ⟨_, rfl, rfl⟩

/-- **`getPostOrActor` as translated is the model's `getPostOrActor`**: no panic; the reference
    under the key, an inline `Create` unwrapped once, fetched with the source handed in, built as
    a post, else (only when it is no post by type) as an actor. -/
theorem getPostOrActor_eq (w : World) (P : Pres) (hP : P.Agrees w) (o : O) (k : Str) (source : Option U) :
    ∃ t, GenNewitem.getPostOrActor (libs w) (ext w P) o k source = .ok t ∧
      targetOf t = Pub.getPostOrActor w o k source := by
  rw [getPostOrActor_def, Gen17.getAny_eq]
  unfold Pub.getPostOrActor
  cases Obj.getAny o k with
  | error e => exact ⟨_, rfl, rfl⟩
  | ok ref0 =>
    cases ref0 with
    | obj kvs =>
      simp only [ofObj_ok, Gen17.getString_eq, Gen17.getAny_eq]
      unfold Go.str
      cases Obj.getString kvs "type".toList with
      | error e => exact ⟨_, rfl, rfl⟩
      | ok kind =>
        simp only [ofObj_ok]
        by_cases hk : kind = "Create".toList
        · simp only [hk, decide_true, if_true]
          cases Obj.getAny kvs "object".toList with
          | error e => exact ⟨_, rfl, rfl⟩
          | ok v => exact fetchPostOrActor_eq w P hP v source
        · simp only [hk, decide_false, Bool.false_eq_true, if_false]
          exact fetchPostOrActor_eq w P hP _ source
    | _ => exact fetchPostOrActor_eq w P hP _ source

/-- **`NewActivityFromObject` as translated is the model's `newActivityFromObject`**: no panic;
    the kind list, the actor and the object both loaded with the activity's id as source. -/
theorem newActivityFromObject_eq (w : World) (P : Pres) (hP : P.Agrees w) (o : O) (id : Option U) :
    ∃ r, NewActivityFromObject (libs w) (ext w P) o id = .ok r ∧ cls r = newActivityFromObject w o id := by
  unfold NewActivityFromObject newActivityFromObject
  refine onType w o _ _ fun kind => kindTest activityKinds kind _ _ _ ?_
  obtain ⟨ra, hra, hra'⟩ := getActor_eq w P hP o (Go.str "actor") id
  obtain ⟨t, ht, ht'⟩ := getPostOrActor_eq w P hP o (Go.str "object") id
  simp only [hra, ht, bind_ok, pure_eq]
  refine ⟨_, rfl, ?_⟩
  simp only [cls, hra', ht', toObjR_ofObj, getTime_eq]
  rfl

theorem newActivity_eq (w : World) (P : Pres) (hP : P.Agrees w) (input : JVal) (source : Option U) :
    ∃ r, NewActivity (libs w) (ext w P) input source = .ok r ∧ cls r = newActivity w input source :=
  fromFetch w P _ _ (newActivityFromObject_eq w P hP) input source

/-- **`New` as translated is the model's `new`**: no panic; actor, then post, then activity,
    then collection, each tried only when the one before is refused by type. -/
theorem new_eq (w : World) (P : Pres) (hP : P.Agrees w) (input : JVal) (source : Option U) :
    ∃ a, GenNewitem.New (libs w) (ext w P) input source = .ok a ∧
      Gen09.anyToItem a = Pub.new w input source := by
  unfold GenNewitem.New Pub.new
  simp only [fetch_raw, bind_ok, ofFetch_triple, fetched]
  cases fetchUnknown w input source with
  | error e => exact ⟨_, rfl, rfl⟩
  | ok r =>
    obtain ⟨o, id⟩ := r
    simp only
    obtain ⟨r1, h1, h1'⟩ := newActorFromObject_eq w P hP o id
    obtain ⟨r2, h2, h2'⟩ := newPostFromObject_eq w P hP o id
    obtain ⟨r3, h3, h3'⟩ := newActivityFromObject_eq w P hP o id
    simp only [h1, h2, h3, bind_ok, ← h1', ← h2', ← h3']
    -- each constructor in turn: its item, or an error that ends the dispatch unless its class is `wrongType`
    cases r1 with
    | ok a => exact ⟨_, rfl, rfl⟩
    | error e1 =>
      simp only [cls, is_wrongType_eq]
      generalize e1.cls = c1
      cases c1 with
      | wrongType =>
        cases r2 with
        | ok p => exact ⟨_, rfl, rfl⟩
        | error e2 =>
          simp only
          generalize e2.cls = c2
          cases c2 with
          | wrongType =>
            cases r3 with
            | ok a => exact ⟨_, rfl, rfl⟩
            | error e3 =>
              simp only
              generalize e3.cls = c3
              cases c3 with
              | wrongType =>
                simp only [ext, ofB]
                cases newCollectionFromObject o id with
                | ok c => exact ⟨_, rfl, rfl⟩
                | error ce => cases ce <;> exact ⟨_, rfl, rfl⟩
              | _ => exact ⟨_, rfl, rfl⟩
          | _ => exact ⟨_, rfl, rfl⟩
      | _ => exact ⟨_, rfl, rfl⟩

/-- **`NewTangible` as translated is the model's `genericItem`**: a collection is shown as an error item. -/
theorem newTangible_eq (w : World) (P : Pres) (hP : P.Agrees w) (e : E) :
    ∃ t, GenNewitem.NewTangible (libs w) (ext w P) e.1 e.2 = .ok t ∧
      Gen09.toItem t = genericItem w e := by
  unfold GenNewitem.NewTangible genericItem
  obtain ⟨a, ha, ha'⟩ := new_eq w P hP e.1 e.2
  simp only [ha, bind_ok]
  rw [← ha']
  cases a <;> exact ⟨_, rfl, rfl⟩

/-- **The creators check of the translated constructor**: `NewPostFromObject` refuses an object
    of a post type (not a tombstone) exactly when one of the authors it loaded — the entries of
    `attributedTo`, each built by the translated `NewActor` with the post's id as source — is an
    actor whose id has another host than the post's id (or exactly one of the two ids is
    missing); otherwise it builds the post. -/
theorem forged_iff (w : World) (P : Pres) (hP : P.Agrees w) (o : O) (id : Option U) (kind : Str)
    (hk : Obj.getString o "type".toList = .ok kind) (hp : postKinds.contains kind = true)
    (ht : kind ≠ "Tombstone".toList) :
    ∃ authors r, GenNewitem.getActors (libs w) (ext w P) o "attributedTo".toList id = .ok authors ∧
      NewPostFromObject (libs w) (ext w P) o id = .ok r ∧
      ((∃ p, r = .ok p ∧ p.creators = authors.map authorOf) ↔ (authors.map authorOf).all (creatorOk id) = true) ∧
      ((∃ e, r = .error e ∧ e.cls = .other) ↔ ¬ (authors.map authorOf).all (creatorOk id) = true) := by
  obtain ⟨authors, ha, ha'⟩ := getActors_eq w P hP o "attributedTo".toList id
  obtain ⟨r, hr, hr'⟩ := newPostFromObject_eq w P hP o id
  refine ⟨authors, r, ha, hr, ?_⟩
  rw [ha']
  unfold newPostFromObject at hr'
  simp only [hk, ht, if_false, hp, Bool.not_true, Bool.false_eq_true] at hr'
  -- the model's verdict fixes what `r` is, and with it both sides of each equivalence
  cases hall : (Pub.getActors w o "attributedTo".toList id).all (creatorOk id) <;> rw [hall] at hr'
  · cases r with
    | ok p => cases hr'
    | error e =>
      exact ⟨iff_of_false (fun ⟨_, h, _⟩ => nomatch h) Bool.false_ne_true,
        iff_of_true ⟨e, rfl, Except.error.inj hr'⟩ Bool.false_ne_true⟩
  · cases r with
    | error e => cases hr'
    | ok p =>
      exact ⟨iff_of_true ⟨p, rfl, by rw [Except.ok.inj hr']⟩ rfl,
        iff_of_false (fun ⟨_, h, _⟩ => nomatch h) (fun h => h rfl)⟩

end Gen02n
