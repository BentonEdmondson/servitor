import Model
import Generated.GoHypertext
import Props.C01
import Props.C06
import Props.C12
import Props.C14
import Props.C15
import Props.Gen15h

/-
  C01, C06, C12, C14 and C15 stated directly about the code as translated from
  hypertext/hypertext.go (`Generated/GoHypertext.lean`), carried across the equalities of
  `Props/Gen15h.lean`: for every forest of Go nodes (`Go.Html.Node`), every width and colours,
  the translated `renderWithLinks` returns (no panic); what it returns is terminal-safe and
  leaks no styling (for accepted colours and element names without control characters, the
  hypotheses of `C01.html_safe`), every line is within the width (`1 ≤ w`), `Render` at a width
  gives the text of `renderWithLinks` at that width whatever was rendered before, the number
  handed to `style.Link` / `style.LinkBlock` is the position of the element's own target in the
  link list, and the link list does not depend on the width; an `hr` returns at every width.
  The model appears in the statements as the specification (`Safe.safe`, `neutralAtBreaks`,
  `C15.FitsShape`, `C12.ideal` on the ghost record and the links of `Hypertext.renderFull`), in
  the hypothesis on element names (`Hypertext.tagsCleanList`), as the rule an `hr` gives
  (`Hypertext.hrText`), and as the markup the renderings start from (`Markup.new` over the pure
  renderer `Markup.htmlR`: `NewMarkup`, which calls the parser, is not translated).
-/

namespace GenT15h
open Str Ansi Cells Go.Html Gen15h

/-- `renderWithLinks_eq` with the two results named as the property theorems name them: the text
    is the pure renderer `Markup.htmlR`, the links those of the model's ghost record.
    `Markup.htmlR` is a projection of `renderWithLinks`, itself a pair of projections of
    `renderFull`; asked to compare two of these forms by unfolding, Lean first tries to identify
    the different renderers underneath and unfolds their well-founded recursion before it gives
    up.  So the form is changed here once, by steps that need no unfolding, and the theorems
    below meet it syntactically. -/
theorem renderWithLinks_parts (c : Colors) (nodes : List Node) (w : Int) :
    GenHypertext.renderWithLinks c Gen13.goExpand hExt nodes w =
      .ok (Markup.htmlR c (toDomList nodes) w, (Hypertext.renderFull c (toDomList nodes) w).2.links) := by
  rw [renderWithLinks_eq, Markup.htmlR, Hypertext.renderWithLinks]

theorem html_safe (c : Colors) (hc : ColorsOk c) (nodes : List Node)
    (ht : Hypertext.tagsCleanList (toDomList nodes) = true) (w : Int) :
    ∃ out links, GenHypertext.renderWithLinks c Gen13.goExpand hExt nodes w = .ok (out, links) ∧
      Safe.safe out = true :=
  ⟨_, _, renderWithLinks_parts c nodes w, C01.html_safe c hc (toDomList nodes) ht w⟩

theorem renderers_neutral (c : Colors) (hc : ColorsOk c) (nodes : List Node)
    (ht : Hypertext.tagsCleanList (toDomList nodes) = true) (w : Int) :
    ∃ out links, GenHypertext.renderWithLinks c Gen13.goExpand hExt nodes w = .ok (out, links) ∧
      neutralAtBreaks out = true :=
  ⟨_, _, renderWithLinks_parts c nodes w, (C14.renderers_neutral c hc (toDomList nodes) ht [] w).1⟩

/-- The translated renderer returns for every forest and every width (also zero and negative). -/
theorem html_no_panic (c : Colors) (nodes : List Node) (w : Int) :
    ∃ r, GenHypertext.renderWithLinks c Gen13.goExpand hExt nodes w = .ok r :=
  ⟨_, renderWithLinks_eq c nodes w⟩

/-- An `hr` element, whatever its attributes, children and parent, at every effective width
    (negative ones arise from deep nesting): `renderNode` returns, with the rule the model's
    `hrText` gives and the link list untouched. -/
theorem hr_no_panic (c : Colors) (a : List Attribute) (ks : List Node) (parent : Option Str)
    (ctx : GenHypertext.context) (links : List Str) :
    ∃ t, Hypertext.hrText ctx.width = .ok t ∧
      GenHypertext.renderNode c Gen13.goExpand hExt (.mk .ElementNode "hr".toList a ks) parent ctx links = .ok (t, links) := by
  obtain ⟨t, ht⟩ := C06.hr_no_panic ctx.width
  refine ⟨t, ht, ?_⟩
  have hw : (toCtx ctx).width = ctx.width := rfl
  rw [renderNode_eq c _ parent ctx ⟨links, []⟩, Gen15hP.toDom_elem, Gen15hP.renderNode_hr, hw, ht]

theorem html_fits (c : Colors) (nodes : List Node) (w : Int) (hw : 1 ≤ w) :
    ∃ out links, GenHypertext.renderWithLinks c Gen13.goExpand hExt nodes w = .ok (out, links) ∧
      C15.FitsShape isSpNl w out :=
  ⟨_, _, renderWithLinks_parts c nodes w, C15.html_fits c (toDomList nodes) w hw⟩

/-- Start from the markup `NewMarkup` builds for a forest (rendered once at width 80), render it
    at any sequence of widths, then at `w`: none of the calls panics, and the last one returns
    exactly what the translated `renderWithLinks` returns for the forest at `w`. -/
theorem render_history_free (c : Colors) (nodes : List Node) (ws : List Int) (w : Int) :
    ∃ outs m out m' links,
      renderSeq c (toGenH (Markup.new (htmlR c) nodes)) ws = .ok (outs, m) ∧
      GenHypertext.Render c Gen13.goExpand hExt m w = .ok (out, m') ∧
      GenHypertext.renderWithLinks c Gen13.goExpand hExt nodes w = .ok (out, links) := by
  refine ⟨_, _, _, _, (Hypertext.renderFull c (toDomList nodes) w).2.links, renderSeq_eq c _ ws, render_eq c _ w, ?_⟩
  rw [C15.render_history_free (htmlR c) nodes ws w]
  exact renderWithLinks_parts c nodes w

/-- The markup `NewMarkup` builds holds what the translated `renderWithLinks` returns at 80. -/
theorem new_cached (c : Colors) (nodes : List Node) :
    ∃ links, GenHypertext.renderWithLinks c Gen13.goExpand hExt nodes 80 =
      .ok ((toGenH (Markup.new (htmlR c) nodes)).cached, links) := by
  simp only [toGenH, Gen15hP.toGenH, Markup.new, htmlR]
  exact ⟨_, renderWithLinks_parts c nodes 80⟩

/-- The translated code returns the model's text and link list, and the record of (number handed
    to `style.Link` / `style.LinkBlock`, the element's own target) is the ideal labelling of that
    list: the k-th numbered element carries the number k and its target is entry k. -/
theorem html_labels (c : Colors) (nodes : List Node) (w : Int) :
    ∃ out links, GenHypertext.renderWithLinks c Gen13.goExpand hExt nodes w = .ok (out, links) ∧
      links = (Hypertext.renderFull c (toDomList nodes) w).2.links ∧
      (Hypertext.renderFull c (toDomList nodes) w).2.ghost = C12.ideal links :=
  ⟨_, _, renderWithLinks_parts c nodes w, rfl, C12.html_labels c (toDomList nodes) w⟩

/-- The link list is the same at every width: the numbers stay valid across resizes. -/
theorem html_links_width_independent (c : Colors) (nodes : List Node) (w w' : Int) :
    ∃ out out' links,
      GenHypertext.renderWithLinks c Gen13.goExpand hExt nodes w = .ok (out, links) ∧
      GenHypertext.renderWithLinks c Gen13.goExpand hExt nodes w' = .ok (out', links) :=
  ⟨_, _, _, renderWithLinks_parts c nodes w,
    C12.html_links_width_independent c (toDomList nodes) w w' ▸ renderWithLinks_parts c nodes w'⟩

/-- C12: a linked image — the anchor takes its number before its children are rendered: links
    `A`, `I`; a second anchor gets 3. -/
example :
    ((GenHypertext.renderWithLinks ⟨[], [], [], []⟩ Gen13.goExpand hExt
        [.mk .ElementNode "a".toList [⟨[], "href".toList, "A".toList⟩]
           [.mk .ElementNode "img".toList [⟨[], "src".toList, "I".toList⟩] []],
         .mk .ElementNode "a".toList [⟨[], "href".toList, "B".toList⟩] [.mk .TextNode "b".toList [] []]] 80).toOption.map
      fun r => (r.1, r.2)) =
    some ("\x1b[38;2;m\x1b[4m‣\x1b[0m\x1b[38;2;m\x1b[4m \x1b[0m\x1b[38;2;m\x1b[4m\x1b[38;2;m\x1b[4mI\x1b[0m\x1b[38;2;m\x1b[4m\x1b[38;2;m²\x1b[0m\n\n\x1b[38;2;m¹\x1b[0m\x1b[38;2;m\x1b[4mb\x1b[0m\x1b[38;2;m³\x1b[0m".toList,
      ["A".toList, "I".toList, "B".toList]) := by
  -- a string literal is cheap to turn into its characters by `rw`, dear to evaluate
  repeat rw [String.toList_ofList]
  decide +kernel

/-- C12: at width 3, narrower than the text, the link list is still `[A]`. -/
example :
    ((GenHypertext.renderWithLinks ⟨[], [], [], []⟩ Gen13.goExpand hExt
        [.mk .ElementNode "p".toList [] [.mk .ElementNode "a".toList [⟨[], "href".toList, "A".toList⟩] [.mk .TextNode "long text".toList [] []]]] 3).toOption.map (·.2)) =
    some ["A".toList] := by
  decide +kernel

/-- C01: a text node holding `ESC[2J` (`&#27;[2J` after character-reference decoding) and a `title`
    carrying BEL: what the translated code returns is terminal-safe. -/
example :
    ((GenHypertext.renderWithLinks ⟨"1;2;3".toList, "1;2;3".toList, "1;2;3".toList, "1;2;3".toList⟩ Gen13.goExpand hExt
        [.mk .TextNode [Char.ofNat 27, '[', '2', 'J'] [] [],
         .mk .ElementNode "iframe".toList [⟨[], "title".toList, [Char.ofNat 7, 't']⟩, ⟨[], "src".toList, "u".toList⟩] []] 80).toOption.map
      fun r => Safe.safe r.1) = some true := by
  decide +kernel

/-- C14: bold around italic, a line break inside: nothing is active across the break. -/
example :
    ((GenHypertext.renderWithLinks ⟨[], [], [], []⟩ Gen13.goExpand hExt
        [.mk .ElementNode "b".toList [] [.mk .ElementNode "i".toList [] [.mk .TextNode "a".toList [] []],
           .mk .ElementNode "br".toList [] [], .mk .TextNode "b".toList [] []]] 80).toOption.map
      fun r => (r.1, Cells.neutralAtBreaks r.1)) =
    some ("\x1b[1m\x1b[3ma\x1b[0m\n\x1b[1mb\x1b[0m".toList, true) := by
  repeat rw [String.toList_ofList]
  decide +kernel

/-- C15: a paragraph of three words at width 5: no line is longer; rendered at 5, then at 80
    again, the markup ends with width 80 and the text of the first rendering. -/
example :
    ((do let o ← renderSeq ⟨[], [], [], []⟩
                   (toGenH (Markup.new (htmlR ⟨[], [], [], []⟩)
                     [.mk .ElementNode "p".toList [] [.mk .TextNode "aaa bbb ccc".toList [] []]])) [5, 80]
         pure (o.1, o.2.cachedWidth)) : Except Panic _).toOption =
    some (["aaa\nbbb\nccc".toList, "aaa bbb ccc".toList], 80) := by
  repeat rw [String.toList_ofList]
  decide +kernel

/-- C06: an `hr` nested so deeply that the width is negative: the guard answers, no panic; at
    width 3 the rule has three characters. -/
example :
    ((GenHypertext.renderNode ⟨[], [], [], []⟩ Gen13.goExpand hExt (.mk .ElementNode "hr".toList [] []) none ⟨false, -4⟩ []).toOption.map
        fun r => r.1,
     (GenHypertext.renderNode ⟨[], [], [], []⟩ Gen13.goExpand hExt (.mk .ElementNode "hr".toList [] []) none ⟨false, 3⟩ []).toOption.map
        fun r => r.1) =
    (some "\n\n\n\n".toList, some "\n\n⎯⎯⎯\n\n".toList) := by
  decide +kernel

end GenT15h
