import Model
import Generated.GoAnsih
import Props.C13
import Props.C13s
import Props.C14
import Props.Gen13

/-
  Property theorems stated directly about the code as translated from the Go source
  (`Generated/GoAnsih.lean`): the C13 and C14 theorems that matter most, carried across the
  equalities of `Props/Gen13.lean`.  The hand-written model appears only as the vocabulary of the
  specification (`wrapLines`, `cellLines`, `visible`, `render`, …).

  `ex` is whatever the regular expression returns for the text, as long as it is a list of
  matches (`hex`); `Gen13.goExpand` is the model's scanner.
-/

namespace GenT13
open Str Ansi AnsiSpec Cells Gen13

/-- The translated `Wrap` returns lines joined by newlines; every line has at most `w` visible
    characters, and every non-whitespace character is kept, with its styling, in order. -/
theorem wrap_within_and_keeps (ex : Str → List Go.Match) (text : Str) (w : Int)
    (cells : List RawCell) (hex : ex text = cells.map toMatch) (hw : 1 ≤ w) :
    ∃ lines : List (List RawCell),
      GenAnsiH.Wrap ex text w = .ok (joinNL (lines.map collapse)) ∧
      (∀ l ∈ lines, (l.length : Int) ≤ w) ∧
      (∀ l ∈ lines, ∀ m ∈ l, m.letter ≠ '\n') ∧
      visible (C13.relines lines) = visible cells :=
  ⟨wrapLines cells w, wrap_cells ex text w cells hex, C13.wrap_width cells w hw,
    C13.wrap_lines_no_newline cells w, C13.wrap_keeps_visible cells w hw⟩

/-- On clean text (what servitor's own style layer produces) the width bound holds of the
    returned string itself, lines counted the way the code counts them. -/
theorem wrap_width_clean (s : Str) (h : Clean s) (w : Int) (hw : 1 ≤ w) :
    ∃ out, GenAnsiH.Wrap goExpand s w = .ok out ∧ linesWithin w out = true :=
  ⟨Ansi.wrap s w, wrap_eq s w, C13s.wrap_width_clean s h w hw⟩

/-- The translated `Pad` pads line by line: each line is followed by spaces up to
    `max (its length) w` characters — at least the width, and nothing is cut. -/
theorem pad_at_least (ex : Str → List Go.Match) (text : Str) (w : Int)
    (cells : List RawCell) (hex : ex text = cells.map toMatch) :
    ∃ padded : List Str,
      GenAnsiH.Pad ex text w = .ok (joinNL padded) ∧
      padded.length = (cellLines cells).length ∧
      ∀ (i : Nat) (line : List RawCell), (cellLines cells)[i]? = some line → ∃ k : Nat,
        padded[i]? = some (collapse line ++ rep ' ' k) ∧
        ((line.length + k : Nat) : Int) = max (line.length : Int) w := by
  refine ⟨(cellLines cells).map (padLine · w), pad_cells ex text w cells hex, by simp, ?_⟩
  intro i line hi
  obtain ⟨k, h1, h2⟩ := C13.pad_shape line w
  exact ⟨k, by simp [hi, h1], h2⟩

/-- The translated `Indent` keeps every line and puts the prefix after every line break (and in
    front when asked). -/
theorem indent_prefix_after_breaks (text pfx : Str) (first : Bool) :
    GenAnsiH.Indent goExpand text pfx first = .ok ((if first then pfx else []) ++
      C13.joinNLWith pfx ((cellLines (expand text)).map collapse)) := by
  rw [indent_eq, C13.indent_shape]

/-- The translated `Apply` with a well-formed SGR parameter, on the rendering of well-formed
    cells, adds the attribute to exactly the non-newline cells (`addAttr` leaves a newline cell
    bare), and the cells stay well-formed. -/
theorem apply_adds_attr (cs : List Cell) (a : Str) (ha : sgrOk a = true)
    (hok : ∀ x ∈ cs, x.ok = true) :
    GenAnsiH.Apply goExpand (render cs) a = .ok (render (cs.map (addAttr a))) ∧
    ∀ x ∈ cs.map (addAttr a), x.ok = true := by
  obtain ⟨h1, h2⟩ := C14P.apply_step (render cs) cs a ha ⟨rfl, hok⟩
  exact ⟨by rw [apply_eq, h1], h2⟩

/-- What the terminal shows for it: every non-newline character carries the new attribute in
    front of its old ones, newlines carry what they carried (nothing), and nothing is active at
    the end. -/
theorem apply_displayed (cs : List Cell) (a : Str) (ha : sgrOk a = true)
    (hok : ∀ x ∈ cs, x.ok = true) :
    ∃ out, GenAnsiH.Apply goExpand (render cs) a = .ok out ∧
      term out = ((cs.map (addAttr a)).map fun x => (x.ch, x.attrs), []) := by
  obtain ⟨h1, h2⟩ := apply_adds_attr cs a ha hok
  exact ⟨_, h1, CellsProps.term_render _ h2⟩

/-- The translated code, run (`toOption`: `some` of the result when there is no panic): wrapping
    at 5, padding to 4, indenting, styling, snipping to two lines of two characters. -/
example :
    (GenAnsiH.Wrap goExpand "hello wor ld foo".toList 5).toOption = some "hello\nwor\nld\nfoo".toList ∧
    (GenAnsiH.Pad goExpand "ab\nc".toList 4).toOption = some "ab  \nc   ".toList ∧
    (GenAnsiH.Indent goExpand "a\nb".toList "> ".toList true).toOption = some "> a\n> b".toList ∧
    (GenAnsiH.Apply goExpand "a\nb".toList "1".toList).toOption =
      some [ESC, '[', '1', 'm', 'a', ESC, '[', '0', 'm', '\n', ESC, '[', '1', 'm', 'b', ESC, '[', '0', 'm'] ∧
    (GenAnsiH.Snip goExpand "ab\ncd\nef".toList 2 2 "…".toList).toOption = some "ab\nc…".toList ∧
    (GenAnsiH.Snip goExpand "ab".toList 2 (-1) "…".toList).toOption = none := by
  decide +kernel

/-- `wrap_within_and_keeps` on a text that has to be broken: three lines, each within 5. -/
example : ∃ lines : List (List RawCell),
    GenAnsiH.Wrap goExpand "hello wor ld".toList 5 = .ok (joinNL (lines.map collapse)) ∧
    lines.length = 3 ∧ ∀ l ∈ lines, (l.length : Int) ≤ 5 := by
  refine ⟨wrapLines (expand "hello wor ld".toList) 5, wrap_cells _ _ _ _ rfl, by decide +kernel,
    C13.wrap_width _ _ (by decide)⟩

end GenT13
