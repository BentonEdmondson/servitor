import Model
import Generated.GoListing
import Props.C09
import Props.Gen09

/-
  C09 stated directly about the code as translated from pub/actor.go, pub/post.go and
  pub/common.go (`Generated/GoListing.lean`), carried across the equalities of `Props/Gen09.lean`:
  an outbox entry is shown as an activity only if it is one and was performed by the actor
  whose outbox it is; a reply only if it answers the post being viewed; the authors a post is
  built with are on the post's host.  The constructors of the items are the model's
  (`Pub.newActivity w`, `Pub.newPost w`, `Pub.newActor w`), the identifiers compared are the
  ones the translated accessors return.
-/

namespace GenT09
open Pub GenListing Gen09

variable {Time Url : Type}

theorem toItem_activity {t : Tangible} {act : ActivityM} : toItem t = .activity act ↔ t = .activity act := by
  cases t <;> simp [toItem]

theorem toItem_post {t : Tangible} {p : PostM} : toItem t = .post p ↔ t = .post p := by
  cases t <;> simp [toItem]

theorem toItem_failure {t : Tangible} : toItem t = .failure ↔ ∃ f, t = .failure f := by
  cases t <;> simp [toItem]

/-- a result stated through `Except.map` says that the function returns -/
theorem map_eq_ok {ε α β : Type} {f : α → β} {x : Except ε α} {y : β} (h : x.map f = .ok y) :
    ∃ t, x = .ok t ∧ f t = y := by
  cases x with
  | error e => cases h
  | ok t => exact ⟨t, rfl, Except.ok.inj h⟩

/-- The translated outbox closure never panics. -/
theorem outbox_total (w : World) (owner : Option U) (e : E) :
    ∃ t, NewActorFromObject_outbox (newActivity w) owner e.1 e.2 = .ok t ∧ toItem t = outboxItem w owner e :=
  map_eq_ok (outbox_eq w owner e)

/-- The translated `constructComment` never panics. -/
theorem reply_total (w : World) (parent : Option U) (e : E) :
    ∃ t, NewPostFromObject_constructComment (newPost w) parent e.1 e.2 = .ok t ∧ toItem t = replyItem w parent e :=
  map_eq_ok (reply_eq w parent e)

/-- C09 (1) on the code: the outbox closure shows an entry as an activity only if the entry is
    that activity and the activity's actor identifier is the owner's, string for string; and it
    shows every such entry as the activity. -/
theorem outbox_genuine (w : World) (owner : Option U) (e : E) :
    (∀ act, NewActorFromObject_outbox (newActivity w) owner e.1 e.2 = .ok (.activity act) →
        newActivity w e.1 e.2 = .ok act ∧
        ∃ oid aid, owner = some oid ∧ Activity.ActorIdentifier act = some aid ∧ aid.str = oid.str) ∧
    (∀ act oid aid, newActivity w e.1 e.2 = .ok act → owner = some oid →
        Activity.ActorIdentifier act = some aid → aid.str = oid.str →
        NewActorFromObject_outbox (newActivity w) owner e.1 e.2 = .ok (.activity act)) := by
  obtain ⟨t, ht, hi⟩ := outbox_total w owner e
  simp only [ht, Except.ok.injEq, ← toItem_activity, hi, actorIdentifier_eq]
  exact ⟨(C09.outbox_genuine w owner e).1, (C09.outbox_genuine w owner e).2.2⟩

/-- Everything else in an outbox is shown as an error item, never as another kind of item. -/
theorem outbox_kinds (w : World) (owner : Option U) (e : E) :
    (∃ f, NewActorFromObject_outbox (newActivity w) owner e.1 e.2 = .ok (.failure f)) ∨
    (∃ act, NewActorFromObject_outbox (newActivity w) owner e.1 e.2 = .ok (.activity act)) := by
  obtain ⟨t, ht, hi⟩ := outbox_total w owner e
  simp only [ht, Except.ok.injEq, ← toItem_activity, ← toItem_failure, hi]
  exact C09.outbox_kinds w owner e

/-- C09 (2) on the code: `constructComment` shows an entry as a reply only if it is that post and
    the post's reply target is the post being viewed; and it shows every such entry. -/
theorem reply_genuine (w : World) (parent : Option U) (e : E) :
    (∀ c, NewPostFromObject_constructComment (newPost w) parent e.1 e.2 = .ok (.post c) →
        newPost w e.1 e.2 = .ok c ∧
        ∃ pid cid, parent = some pid ∧ Post.ParentIdentifier c = some cid ∧ cid.str = pid.str) ∧
    (∀ c pid cid, newPost w e.1 e.2 = .ok c → parent = some pid →
        Post.ParentIdentifier c = some cid → cid.str = pid.str →
        NewPostFromObject_constructComment (newPost w) parent e.1 e.2 = .ok (.post c)) := by
  obtain ⟨t, ht, hi⟩ := reply_total w parent e
  simp only [ht, Except.ok.injEq, ← toItem_post, hi, parentIdentifier_eq]
  exact ⟨(C09.reply_genuine w parent e).1, (C09.reply_genuine w parent e).2.2⟩

theorem reply_kinds (w : World) (parent : Option U) (e : E) :
    (∃ f, NewPostFromObject_constructComment (newPost w) parent e.1 e.2 = .ok (.failure f)) ∨
    (∃ c, NewPostFromObject_constructComment (newPost w) parent e.1 e.2 = .ok (.post c)) := by
  obtain ⟨t, ht, hi⟩ := reply_total w parent e
  simp only [ht, Except.ok.injEq, ← toItem_post, ← toItem_failure, hi]
  exact C09.reply_kinds w parent e

/-- C09 (3) on the code, the loop alone: it lets a list of authors pass exactly when every actor
    among them has the post's host (or neither has an identifier); it never panics. -/
theorem creators_same_host (id : Option U) (cs : List Tangible) :
    (NewPostFromObject_creators id cs = .ok none ↔
      ∀ a, Tangible.actor a ∈ cs →
        (Actor.Identifier a = none ∧ id = none) ∨
        (∃ ai pi, Actor.Identifier a = some ai ∧ id = some pi ∧ ai.host = pi.host)) ∧
    (NewPostFromObject_creators id cs = .ok none ∨
      NewPostFromObject_creators id cs = .ok (some (Go.Error.new (Go.str "post contains forged creators")))) := by
  rw [creators_eq]
  have key : ((cs.map toAorF).all (creatorOk id) = true) ↔
      ∀ a, Tangible.actor a ∈ cs →
        (Actor.Identifier a = none ∧ id = none) ∨
        (∃ ai pi, Actor.Identifier a = some ai ∧ id = some pi ∧ ai.host = pi.host) := by
    simp only [List.all_eq_true, List.mem_map, identifier_eq]
    constructor
    · exact fun h a ha => C09aux.creatorOk_actor.1 (h _ ⟨_, ha, rfl⟩)
    · rintro h x ⟨t, ht, rfl⟩
      cases t with
      | actor a => exact C09aux.creatorOk_actor.2 (h a ht)
      | _ => rfl
  rw [← key]
  cases (cs.map toAorF).all (creatorOk id) <;> simp

/-- C09 (3) on the code, the whole decision: whenever the translated head of `NewPostFromObject`
    passes the kind, the authors are read (`getActors`, no panic) and the translated loop lets
    them pass, the model builds the post with exactly these authors, and every author that is an
    actor is on the post's host (or neither has an identifier). -/
theorem post_authors_same_host (L : Obj.Libs Time Url) (w : World) (o : O) (id : Option U) (k : Str)
    (hk : NewPostFromObject_kind L o id = .ok k) :
    ∃ cs, getActors L (newActor w) o NewPostFromObject_creatorsKey id = .ok cs ∧
      (NewPostFromObject_creators id cs = .ok none →
        ∃ p, newPostFromObject w o id = .ok p ∧ p.id = id ∧ p.creators = cs.map toAorF ∧
          ∀ a, Tangible.actor a ∈ cs →
            (Actor.Identifier a = none ∧ id = none) ∨
            (∃ ai pi, Actor.Identifier a = some ai ∧ id = some pi ∧ ai.host = pi.host)) ∧
      (NewPostFromObject_creators id cs ≠ .ok none → ∃ err, newPostFromObject w o id = .error err) := by
  have h := post_decision L w o id
  rw [hk] at h
  obtain ⟨cs, hcs, h⟩ := h
  refine ⟨cs, hcs, ?_, ?_⟩
  · intro hl
    rw [hl] at h
    obtain ⟨p, hp, _, hid, hcr⟩ := h
    exact ⟨p, hp, hid, hcr, ((creators_same_host id cs).1.1 hl)⟩
  · intro hl
    rcases (creators_same_host id cs).2 with h' | h'
    · exact absurd h' hl
    · rw [h'] at h
      exact ⟨_, h⟩

/-- The same on the model's post, through `C09.post_authors_same_host`: the authors of a post the
    model builds are the ones the translated `getActors` read and the translated loop let pass. -/
theorem built_post_authors (L : Obj.Libs Time Url) (w : World) (o : O) (id : Option U) (p : PostM)
    (h : newPostFromObject w o id = .ok p) :
    ∃ cs, getActors L (newActor w) o NewPostFromObject_creatorsKey id = .ok cs ∧
      NewPostFromObject_creators id cs = .ok none ∧ p.creators = cs.map toAorF ∧
      ∀ a, AorF.actor a ∈ p.creators →
        (a.id = none ∧ id = none) ∨ (∃ ai pi, a.id = some ai ∧ id = some pi ∧ ai.host = pi.host) := by
  have hd := post_decision L w o id
  cases hk : NewPostFromObject_kind L o id with
  | error e => rw [hk] at hd; rw [h] at hd; cases hd
  | ok k =>
    rw [hk] at hd
    obtain ⟨cs, hcs, hd⟩ := hd
    rcases (creators_same_host id cs).2 with h' | h'
    · rw [h'] at hd
      obtain ⟨p', hp', _, _, hcr⟩ := hd
      rw [h] at hp'
      injection hp' with hp'
      subst hp'
      exact ⟨cs, hcs, h', hcr, (C09.post_authors_same_host w o id p h).2⟩
    · rw [h'] at hd; rw [h] at hd; cases hd

/-! ### Non-vacuity

  One world, one host `h`: the actor `https://h/a` is served at its own address.  An embedded
  `Create` whose actor is that address is shown as an activity in that actor's outbox, and as an
  error item in the outbox of `https://h/b`. -/

def demoActor : O := [("type".toList, .str "Person".toList), ("id".toList, .str "https://h/a".toList)]

def demoWorld : World where
  fetch := fun s => if s = "https://h/a".toList then some (demoActor, ⟨s, "h".toList⟩) else none
  parse := fun s => some ⟨s, "h".toList⟩

def demoEntry : E := (.obj [("type".toList, .str "Create".toList), ("actor".toList, .str "https://h/a".toList)], none)

example :
    (match NewActorFromObject_outbox (newActivity demoWorld) (some ⟨"https://h/a".toList, "h".toList⟩) demoEntry.1 demoEntry.2 with
      | .ok (.activity act) => act.kind == "Create".toList
      | _ => false) = true ∧
    (match NewActorFromObject_outbox (newActivity demoWorld) (some ⟨"https://h/b".toList, "h".toList⟩) demoEntry.1 demoEntry.2 with
      | .ok (.failure f) => true
      | _ => false) = true ∧
    (match NewPostFromObject_creators (some ⟨"https://h/p".toList, "h".toList⟩)
        [.actor { kind := [], id := some ⟨"https://other/a".toList, "other".toList⟩, name := .error .absent,
                  posts := .error .absent, obj := [] }] with
      | .ok (some _) => true
      | _ => false) = true := by
  refine ⟨?_, ?_, ?_⟩ <;> decide +kernel

end GenT09
