import Model
import Props.Clean
import Proofs.C19
import Proofs.C15
import Proofs.C16

/-
  C01 — remote content can never emit terminal control sequences.

  `Safe.safe s` says that `s` consists only of printable characters, newlines and complete SGR
  sequences `ESC [ (digit|;)* m`.  `Cells.Clean s` (clean styled text) is the invariant that
  carries it through the style layer, the layout functions and the renderers; the closure
  theorems themselves are in Props/Clean.lean.
-/

namespace C01
open Str Ansi Cells

/-- (1) Everything read from JSON passes through `Scrub`: afterwards no control character other
    than newline is left — in particular no ESC, C0, DEL or C1 (CSI, OSC). -/
theorem scrub_removes_controls (s : Str) : ∀ c ∈ Ansi.scrub s, c = '\n' ∨ Uni.isControl c = false :=
  (noCtl_iff _).1 (CleanProps.scrub_noCtl s)

/-- ESC, BEL, DEL and the C1 introducers CSI (U+009B) and OSC (U+009D) are control characters,
    so (1) really excludes them. -/
example : Uni.isControl (Char.ofNat 0x1B) = true ∧ Uni.isControl (Char.ofNat 0x07) = true ∧
    Uni.isControl (Char.ofNat 0x7F) = true ∧ Uni.isControl (Char.ofNat 0x9B) = true ∧
    Uni.isControl (Char.ofNat 0x9D) = true := by decide

/-- (2) Clean styled text is terminal-safe. -/
theorem clean_is_safe (s : Str) (h : Clean s) : Safe.safe s = true := CleanProps.clean_safe s h

theorem color_sgrOk {pre s : Str} (hp : sgrOk pre = true) (hs : Config.IsColor s) :
    sgrOk (pre ++ s) = true := by
  obtain ⟨r, g, b, _, _, _, rfl⟩ := hs
  have hd : ∀ n : Nat, ∀ ch ∈ Style.itoa n, (ch.isDigit || decide (ch = ';')) = true :=
    fun n ch hch => by simp [Config.itoa_isDigit n ch hch]
  refine sgrOk_append _ _ hp ?_
  simp only [List.all_append, List.all_cons, Bool.and_eq_true, List.all_eq_true]
  exact ⟨⟨hd r, by decide, hd g⟩, by decide, hd b⟩

/-- (3) The colours of every accepted configuration are well-formed SGR parameters, so the style
    layer only ever emits well-formed sequences (link to C19). -/
theorem accepted_colors_ok (r : Config.Raw) (p : Config.Parsed) (h : Config.postprocess r = .ok p) :
    ColorsOk p.colors := by
  obtain ⟨_, _, _, _, _, _, hc⟩ := Config.postprocess_safe h
  exact ⟨color_sgrOk (by decide) (hc _ (by simp)), color_sgrOk (by decide) (hc _ (by simp)),
    color_sgrOk (by decide) (hc _ (by simp)), color_sgrOk (by decide) (hc _ (by simp))⟩

/-- (4) The renderers: for every forest whose element names are free of control characters
    (`tagsCleanList`; text nodes and attribute values are arbitrary strings — whatever character
    references decoded to), every gemtext / plain-text source that went through `Scrub`, and every
    width, what is rendered is terminal-safe. -/
theorem html_safe (c : Colors) (hc : ColorsOk c) (nodes : List Dom.Node)
    (ht : Hypertext.tagsCleanList nodes = true) (w : Int) : Safe.safe (Markup.htmlR c nodes w) = true :=
  CleanProps.clean_safe _ (CleanProps.html_clean c hc nodes ht w)

theorem gemtext_safe (c : Colors) (hc : ColorsOk c) (src : Str) (w : Int) :
    Safe.safe (Markup.gemR c (splitNL (Ansi.scrub src)) w) = true := by
  apply CleanProps.clean_safe
  apply CleanProps.gemtext_clean c hc
  intro l hl
  exact ⟨noCtl_sublist (C15P.mem_splitNL_infix _ l hl).sublist (CleanProps.scrub_noCtl src),
    C16.splitNL_noNL _ l hl⟩

theorem plaintext_safe (c : Colors) (hc : ColorsOk c) (src : Str) (w : Int) :
    Safe.safe (Markup.plainR c (Ansi.scrub src) w) = true :=
  CleanProps.clean_safe _ (CleanProps.plaintext_clean c hc _ (CleanProps.scrub_noCtl src) w)

/-- Error text (which may quote raw network bytes) is scrubbed and coloured by `style.Problem`:
    safe for every message. -/
theorem problem_safe (c : Colors) (hc : ColorsOk c) (msg : Str) :
    Safe.safe (Style.red c (Ansi.scrub msg)) = true :=
  CleanProps.clean_safe _ ((CleanProps.clean_colors c hc _ (CleanProps.clean_plain _ (CleanProps.scrub_noCtl msg))).2.1)

/-- The status line is safe whatever it quotes (hook output, a link). -/
theorem statusline_safe (c : Colors) (hc : ColorsOk c) (footer : Str) (w : Int) (out : Str)
    (h : Ansi.setLength footer w ['…'] = .ok out) : Safe.safe (Style.highlight c out) = true :=
  CleanProps.clean_safe _ ((CleanProps.clean_colors c hc _ (CleanProps.clean_setLength footer w '…' out (by decide) h)).2.2.2.1)

/-- Non-vacuity: a text node that holds `ESC[2J`, as character-reference decoding of `&#27;[2J`
    produces it. -/
example : Safe.safe (Markup.htmlR ⟨"1;2;3".toList, "1;2;3".toList, "1;2;3".toList, "1;2;3".toList⟩
    [.text [Char.ofNat 27, '[', '2', 'J']] 80) = true := by
  apply html_safe
  · exact ⟨by decide, by decide, by decide, by decide⟩
  · rfl

end C01
