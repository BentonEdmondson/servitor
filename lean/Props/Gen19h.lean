import Model
import Generated.GoHex
import Props.Gen19
import Proofs.GoBytes

/-
  C19 on the code as it is written, second part: `config.hexToAnsi` and the part of `config.parse`
  that follows the defaults, translated from config/config.go on every run
  (`Generated/GoHex.lean`, over BYTES: `len` and `text[i:j]` count bytes), agree with the
  hand-written model `Config.hexToAnsi`, which works on code points — on every string, through
  UTF-8.  So the `hexToAnsi` the translated `postprocess` of Gen19 takes as a parameter can be the
  translated one.  A changed length test, other slice bounds, another base, another order of the
  components, another separator, a dropped prefix test break one of these theorems; so do an
  ignored `Undecoded()` and a missing file treated as an error.
-/

namespace Gen19h
open Config GoB GoB.Strconv

theorem lit_hash : lit "#" = [35] := by decide
theorem lit_semi : lit ";" = [59] := by decide
theorem lit_empty : lit "" = [] := by decide

/-- The one failure of the translated `hexToAnsi`, whatever its message: its answer to the empty
    string. -/
def hexErr : Failure :=
  match GenHex.hexToAnsi [] with
  | .error e => e
  | .ok _ => .panic .nilDeref

theorem hexErr_is_error : ∃ e, hexErr = .err e := ⟨_, rfl⟩

def colour (r g b : Nat) : Bytes :=
  itoa (Go.toInt r) ++ [59] ++ itoa (Go.toInt g) ++ [59] ++ itoa (Go.toInt b)

theorem eval_seven (x0 x1 x2 x3 x4 x5 x6 : UInt8) :
    GenHex.hexToAnsi [x0, x1, x2, x3, x4, x5, x6] =
      if x0 ≠ 35 then .error hexErr else
      match parseUint [x1, x2] 16 0, parseUint [x3, x4] 16 0, parseUint [x5, x6] 16 0 with
      | (r, none), (g, none), (b, none) => .ok (colour r g b)
      | _, _, _ => .error hexErr := by
  have hp : (!hasPrefix [x0, x1, x2, x3, x4, x5, x6] [35]) = true ↔ x0 ≠ 35 := by
    rw [hasPrefix, List.isPrefixOf, List.isPrefixOf, Bool.and_true, Bool.not_eq_true',
      beq_eq_false_iff_ne, ne_comm]
  have hl : ¬ decide (GoB.len [x0, x1, x2, x3, x4, x5, x6] ≠ 7) = true :=
    fun h => of_decide_eq_true h rfl
  have s1 : slice [x0, x1, x2, x3, x4, x5, x6] 1 3 = .ok [x1, x2] := rfl
  have s2 : slice [x0, x1, x2, x3, x4, x5, x6] 3 5 = .ok [x3, x4] := rfl
  have s3 : slice [x0, x1, x2, x3, x4, x5, x6] 5 7 = .ok [x5, x6] := rfl
  -- the message, read off the definition: unfolding `hexErr` inside the goal is slow
  have he : hexErr = .err (.new _) := rfl
  unfold GenHex.hexToAnsi
  simp only [lit_hash, lit_semi, lit_empty, hp, if_neg hl, s1, s2, s3, he, bind, Except.bind]
  rcases parseUint [x1, x2] 16 0 with ⟨r, _ | _⟩
  · rcases parseUint [x3, x4] 16 0 with ⟨g, _ | _⟩
    · rcases parseUint [x5, x6] 16 0 with ⟨b, _ | _⟩ <;> rfl
    · rfl
  · rfl

/-- Any other length is refused (before any slice is cut: no slice is ever out of range). -/
theorem eval_other_length (text : Bytes) (h : text.length ≠ 7) :
    GenHex.hexToAnsi text = .error hexErr := by
  have h' : decide (GoB.len text ≠ 7) = true := decide_eq_true (by unfold GoB.len; omega)
  unfold GenHex.hexToAnsi
  rw [h']
  cases (!(GoB.hasPrefix text (GoB.lit "#"))) <;> rfl

theorem eval_hex {x1 x2 x3 x4 x5 x6 : UInt8} {a1 a2 a3 a4 a5 a6 : Nat}
    (h1 : hexByte x1 = some a1) (h2 : hexByte x2 = some a2) (h3 : hexByte x3 = some a3)
    (h4 : hexByte x4 = some a4) (h5 : hexByte x5 = some a5) (h6 : hexByte x6 = some a6) :
    GenHex.hexToAnsi [35, x1, x2, x3, x4, x5, x6] =
      .ok (colour (16 * a1 + a2) (16 * a3 + a4) (16 * a5 + a6)) := by
  rw [eval_seven, parseUint_two, parseUint_two, parseUint_two, h1, h2, h3, h4, h5, h6]
  rfl

/-- On ANY byte string (valid UTF-8 or not) the translated `hexToAnsi` either returns the colour
    of `#` and six hexadecimal digit bytes, or its one error; it never panics. -/
theorem hexToAnsi_bytes (text : Bytes) :
    (∃ x1 x2 x3 x4 x5 x6 a1 a2 a3 a4 a5 a6, text = [35, x1, x2, x3, x4, x5, x6] ∧
      hexByte x1 = some a1 ∧ hexByte x2 = some a2 ∧ hexByte x3 = some a3 ∧
      hexByte x4 = some a4 ∧ hexByte x5 = some a5 ∧ hexByte x6 = some a6 ∧
      GenHex.hexToAnsi text = .ok (colour (16 * a1 + a2) (16 * a3 + a4) (16 * a5 + a6))) ∨
    GenHex.hexToAnsi text = .error hexErr := by
  by_cases hl : text.length = 7
  · match text, hl with
    | [x0, x1, x2, x3, x4, x5, x6], _ =>
    rw [eval_seven]
    by_cases h0 : x0 = 35
    · subst h0
      rw [if_neg (not_not_intro rfl)]
      split
      · next r g b hr hg hb =>
        obtain ⟨a1, a2, h1, h2, rfl⟩ := parseUint_two_ok hr
        obtain ⟨a3, a4, h3, h4, rfl⟩ := parseUint_two_ok hg
        obtain ⟨a5, a6, h5, h6, rfl⟩ := parseUint_two_ok hb
        exact .inl ⟨x1, x2, x3, x4, x5, x6, a1, a2, a3, a4, a5, a6, rfl, h1, h2, h3, h4, h5, h6, rfl⟩
      · exact .inr rfl
    · exact .inr (if_pos h0)
  · exact .inr (eval_other_length text hl)

/-- It never panics: the length test comes before the slices. -/
theorem hexToAnsi_never_panics (text : Bytes) (p : Panic) :
    GenHex.hexToAnsi text ≠ .error (.panic p) := by
  obtain ⟨e, he⟩ := hexErr_is_error
  rcases hexToAnsi_bytes text with ⟨_, _, _, _, _, _, _, _, _, _, _, _, _, _, _, _, _, _, _, h⟩ | h
  · rw [h]; intro c; cases c
  · rw [h, he]; intro c; cases c

theorem itoa_component {r : Nat} (h : r ≤ 255) : itoa (Go.toInt r) = utf8 (Style.itoa r) := by
  have h1 : Go.toInt r = (r : Int) := by
    unfold Go.toInt
    rw [if_pos (by omega)]
  rw [h1]
  unfold itoa Style.itoa
  rw [if_neg (by omega)]
  simp

theorem utf8_colour {r g b : Nat} (hr : r ≤ 255) (hg : g ≤ 255) (hb : b ≤ 255) :
    colour r g b = utf8 (Style.itoa r ++ ';' :: Style.itoa g ++ ';' :: Style.itoa b) := by
  have hs : String.utf8EncodeChar ';' = [59] := by decide
  simp only [colour, itoa_component hr, itoa_component hg, itoa_component hb]
  rw [utf8_append, utf8_cons, utf8_append, utf8_cons, hs]
  simp

theorem parseUint_pair {a b : Char} {r : Nat} (h : parseHexPair a b = some r) :
    a.toNat < 128 ∧ b.toNat < 128 ∧ parseUint [a.toUInt8, b.toUInt8] 16 0 = (r, none) := by
  obtain ⟨x, y, hx, hy, rfl⟩ := parseHexPair_some h
  have la := (hexVal_some hx).1.toNat_lt
  have lb := (hexVal_some hy).1.toNat_lt
  refine ⟨la, lb, ?_⟩
  rw [parseUint_two, hexByte_toUInt8 la, hexByte_toUInt8 lb, hx, hy]

/-- **The translated `hexToAnsi` is the modelled one**, on every string, through UTF-8: the same
    verdict and, when it accepts, the same colour. -/
theorem hexToAnsi_eq (s : Str) :
    GenHex.hexToAnsi (utf8 s) =
      match Config.hexToAnsi s with
      | some v => .ok (utf8 v)
      | none => .error hexErr := by
  cases hm : Config.hexToAnsi s with
  | some v =>
    -- the six digits are ASCII: seven bytes, and the pairs parse to the same components
    obtain ⟨a, b, c, d, e, f, r, g, bl, rfl, hr, hg, hb, rfl⟩ := hexToAnsi_some_inv hm
    obtain ⟨la, lb, p1⟩ := parseUint_pair hr
    obtain ⟨lc, ld, p2⟩ := parseUint_pair hg
    obtain ⟨le, lf, p3⟩ := parseUint_pair hb
    rw [utf8_cons_ascii (c := '#') (by decide), utf8_cons_ascii la, utf8_cons_ascii lb,
      utf8_cons_ascii lc, utf8_cons_ascii ld, utf8_cons_ascii le, utf8_cons_ascii lf, utf8_nil,
      eval_seven, p1, p2, p3]
    exact congrArg Except.ok (utf8_colour (parseHexPair_le hr) (parseHexPair_le hg) (parseHexPair_le hb))
  | none =>
    -- were the bytes accepted, they would be ASCII, so `s` itself `#` and six digits
    rcases hexToAnsi_bytes (utf8 s) with ⟨x1, x2, x3, x4, x5, x6, a1, a2, a3, a4, a5, a6, hs, h1, h2, h3, h4, h5, h6, -⟩ | h
    · obtain ⟨l1, i1, -⟩ := hexByte_some h1
      obtain ⟨l2, i2, -⟩ := hexByte_some h2
      obtain ⟨l3, i3, -⟩ := hexByte_some h3
      obtain ⟨l4, i4, -⟩ := hexByte_some h4
      obtain ⟨l5, i5, -⟩ := hexByte_some h5
      obtain ⟨l6, i6, -⟩ := hexByte_some h6
      have hs' := eq_of_utf8_ascii hs (by
        simp only [List.forall_mem_cons]; exact ⟨by decide, l1, l2, l3, l4, l5, l6, nofun⟩)
      rw [hs'] at hm
      exact absurd hm (Option.isSome_iff_ne_none.1 (hexToAnsi_of_hex i1 i2 i3 i4 i5 i6))
    · exact h

/-- Accepted with the colour `v` by the translated code iff by the model. -/
theorem hexToAnsi_ok_iff (s v : Str) :
    GenHex.hexToAnsi (utf8 s) = .ok (utf8 v) ↔ Config.hexToAnsi s = some v := by
  rw [hexToAnsi_eq]
  cases hm : Config.hexToAnsi s with
  | none => constructor <;> intro h <;> cases h
  | some w =>
    constructor
    · intro h
      rw [utf8_injective (Except.ok.inj h)]
    · intro h
      rw [Option.some.inj h]

/-- Refused (with an error, not a panic) by the translated code iff by the model. -/
theorem hexToAnsi_error_iff (s : Str) :
    (∃ e, GenHex.hexToAnsi (utf8 s) = .error (.err e)) ↔ Config.hexToAnsi s = none := by
  rw [hexToAnsi_eq]
  cases hm : Config.hexToAnsi s with
  | none =>
    obtain ⟨e, he⟩ := hexErr_is_error
    exact ⟨fun _ => rfl, fun _ => ⟨e, by rw [he]⟩⟩
  | some w =>
    constructor
    · rintro ⟨e, h⟩; cases h
    · intro h; cases h

/-- The translated `hexToAnsi` as a function on the model's strings: encode, run, decode. -/
def hexToAnsiStr (s : Str) : Option Str :=
  match GenHex.hexToAnsi (utf8 s) with
  | .ok b => ofUtf8 b
  | .error _ => none

theorem hexToAnsiStr_eq : hexToAnsiStr = Config.hexToAnsi := by
  funext s
  unfold hexToAnsiStr
  rw [hexToAnsi_eq]
  cases Config.hexToAnsi s with
  | none => rfl
  | some v => exact ofUtf8_utf8 v

/-- **Corollary: the translated `postprocess` with the translated `hexToAnsi`** — no modelled
    function left in it — is the modelled `postprocess`: same verdict, same key, same result. -/
theorem postprocess_translated_eq (r : Raw) :
    GenConfig.postprocess hexToAnsiStr (Gen19.ofRaw r) =
      match postprocess r with
      | .error d => .error (Gen19.key d)
      | .ok p => .ok (Gen19.ofParsed p) := by
  rw [hexToAnsiStr_eq]
  exact Gen19.postprocess_eq r

/-- C19 (2) on translated code only: what `postprocess` with `hexToAnsi`, both as written, accept
    is safe to run with. -/
theorem translated_accepted_safe (r : Raw) (c : GenConfig.Config)
    (h : GenConfig.postprocess hexToAnsiStr (Gen19.ofRaw r) = .ok c) :
    ∃ p, postprocess r = .ok p ∧ Safe p ∧ c = Gen19.ofParsed p ∧
      c.Network_Timeout = r.timeout * 1000000000 ∧ 0 ≤ c.Network_Timeout ∧
      0 ≤ c.Network_Context ∧ c.Network_Context ≤ 2147483647 ∧ 1 ≤ c.Network_CacheSize ∧
      c.Media_Hook ≠ [] := by
  rw [hexToAnsiStr_eq] at h
  exact Gen19.generated_accepted_safe r c h

/-- The defaults `parse` installs pass the translated `postprocess` with the translated
    `hexToAnsi`. -/
theorem translated_defaults_accepted :
    ∃ c, GenConfig.postprocess hexToAnsiStr GenConfig.defaults = .ok c := by
  rw [hexToAnsiStr_eq]
  exact Gen19.generated_defaults_accepted

/-! `parse` after the defaults.  `decodeFile` stands for `toml.DecodeFile(location, config)`: the
struct as the decoder left it, the metadata, the error. -/

section parse
variable (decodeFile : Bytes → GenConfig.Config → Toml.Decoded GenConfig.Config)

/-- No location (neither `XDG_CONFIG_HOME` nor `HOME`): the defaults, and no file is read. -/
theorem parse_no_location : GenHex.parse decodeFile [] = .ok (some GenConfig.defaults) := by
  simp [GenHex.parse, lit_empty, pure, Except.pure]

/-- A missing file is no error: the struct as it is — the defaults, since a decoder that could
    not open the file has not written to it. -/
theorem parse_missing_file (loc : Bytes) (hl : loc ≠ [])
    (he : (decodeFile loc GenConfig.defaults).err = some .notExist) :
    GenHex.parse decodeFile loc = .ok (some (decodeFile loc GenConfig.defaults).config) ∧
    ((decodeFile loc GenConfig.defaults).config = GenConfig.defaults →
      GenHex.parse decodeFile loc = .ok (some (Gen19.ofRaw Config.defaults))) := by
  have h : GenHex.parse decodeFile loc = .ok (some (decodeFile loc GenConfig.defaults).config) := by
    simp [GenHex.parse, lit_empty, hl, he, Error.isNotExist, pure, Except.pure]
  refine ⟨h, fun hk => ?_⟩
  rw [h, hk, Gen19.defaults_eq]

/-- Any other error of the decoder (unreadable file, syntax error, a value of the wrong type) is
    the error of `parse`. -/
theorem parse_decode_error (loc : Bytes) (e : Error) (hl : loc ≠ [])
    (he : (decodeFile loc GenConfig.defaults).err = some e) (hne : e ≠ .notExist) :
    GenHex.parse decodeFile loc = .error (.err e) := by
  have h1 : Error.isNotExist (some e) = false := by
    cases e <;> simp_all [Error.isNotExist]
  simp [GenHex.parse, lit_empty, hl, he, h1, GoB.ret]

/-- Keys no field took are an error. -/
theorem parse_undecoded_keys (loc : Bytes) (hl : loc ≠ [])
    (he : (decodeFile loc GenConfig.defaults).err = none)
    (hu : (decodeFile loc GenConfig.defaults).metadata.undecoded ≠ []) :
    ∃ e, GenHex.parse decodeFile loc = .error (.err e) := by
  have hlen : ¬ Go.len (decodeFile loc GenConfig.defaults).metadata.undecoded = 0 :=
    fun h => hu (List.isEmpty_iff.1 ((Gen19.len_eq_zero_iff _).1 h))
  simp [GenHex.parse, lit_empty, hl, he, hlen, Error.isNotExist, Toml.MetaData.Undecoded, GoB.ret]

/-- Otherwise: the decoded struct. -/
theorem parse_decoded (loc : Bytes) (hl : loc ≠ [])
    (he : (decodeFile loc GenConfig.defaults).err = none)
    (hu : (decodeFile loc GenConfig.defaults).metadata.undecoded = []) :
    GenHex.parse decodeFile loc = .ok (some (decodeFile loc GenConfig.defaults).config) := by
  simp [GenHex.parse, lit_empty, hl, he, hu, Go.len, Error.isNotExist, Toml.MetaData.Undecoded, pure, Except.pure]

/-- In every case `parse` ends with a struct or with an error value. -/
theorem parse_result (loc : Bytes) :
    (∃ c, GenHex.parse decodeFile loc = .ok (some c)) ∨ ∃ e, GenHex.parse decodeFile loc = .error (.err e) := by
  by_cases hl : loc = []
  · exact .inl ⟨_, hl ▸ parse_no_location decodeFile⟩
  cases he : (decodeFile loc GenConfig.defaults).err with
  | some e =>
    by_cases hne : e = .notExist
    · exact .inl ⟨_, (parse_missing_file decodeFile loc hl (hne ▸ he)).1⟩
    · exact .inr ⟨_, parse_decode_error decodeFile loc e hl he hne⟩
  | none =>
    by_cases hu : (decodeFile loc GenConfig.defaults).metadata.undecoded = []
    · exact .inl ⟨_, parse_decoded decodeFile loc hl he hu⟩
    · exact .inr (parse_undecoded_keys decodeFile loc hl he hu)

/-- `parse` never returns `(nil, nil)`: what `init` hands to `postprocess` is a struct. -/
theorem parse_ok_not_nil (loc : Bytes) (p : Option GenConfig.Config)
    (h : GenHex.parse decodeFile loc = .ok p) : p ≠ none := by
  rcases parse_result decodeFile loc with ⟨c, hc⟩ | ⟨e, he⟩
  · rw [hc] at h; cases h; simp
  · rw [he] at h; cases h

theorem parse_never_panics (loc : Bytes) (p : Panic) :
    GenHex.parse decodeFile loc ≠ .error (.panic p) := by
  rcases parse_result decodeFile loc with ⟨c, hc⟩ | ⟨e, he⟩
  · rw [hc]; intro h; cases h
  · rw [he]; intro h; cases h

end parse

end Gen19h
