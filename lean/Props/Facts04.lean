import Model
import Generated.Facts

/-
  Facts regenerated from the source on every run for C04 (anonymous, well-formed https GETs) and
  C05 (the deadline).
-/
namespace Facts04
open Jtp

/-- Exactly one `Write` on a connection exists in jtp. -/
theorem one_connection_write : Generated.connectionWrites = 1 := by decide

/-- Instantiating the extracted concatenation (the `@…` entries are the Go expressions
    `link.RequestURI()`, `link.Host`, `accept`). -/
def instantiate (uri host accept : Str) : List String → Str
  | [] => []
  | p :: ps =>
    (if p = "@link.RequestURI()" then uri
     else if p = "@link.Host" then host
     else if p = "@accept" then accept
     else p.toList) ++ instantiate uri host accept ps

/-- The concatenation the source writes is, piece by piece, the model's `request`: nothing else
    (no cookie, credential, user agent, body) is part of the template. -/
theorem template_pieces : Generated.requestTemplate =
    ["GET ", "@link.RequestURI()", " HTTP/1.0\r\n", "Host: ", "@link.Host", "\r\n", "Accept: ", "@accept", "\r\n", "\r\n"] :=
  rfl

/-- Only jtp/jtp.go talks to the network; nothing imports net/http; only ui/ui.go runs programs. -/
theorem network_confined :
    (Generated.sensitiveImports.all fun p =>
      (p.1 = "jtp/jtp.go" || (!(p.2.contains "net") && !(p.2.contains "crypto/tls"))) &&
      !(p.2.contains "net/http") && !(p.2.contains "syscall") && !(p.2.contains "unsafe") &&
      (p.1 = "ui/ui.go" || !(p.2.contains "os/exec"))) = true := by decide

/-- C05: the deadline is set on the connection after the dial and before anything is written or
    read. -/
theorem deadline_before_io : Generated.connectionOrder = ["dial", "setdeadline", "write", "read"] := rfl

/-- The only TLS connection is made with a nil configuration: Go's defaults, which keep no client
    session cache (no ticket or pre-shared key is ever offered, so successive fetches are not
    linkable at the TLS layer) and present no client certificate. -/
theorem tls_default_config : Generated.tlsDialArgs = ["DialWithDialer(dialer, \"tcp\", hostport, nil)"] := rfl

end Facts04
