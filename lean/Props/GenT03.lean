import Model
import Generated.GoJtp
import Props.C03
import Props.Gen03

/-
  C03 theorems stated directly about jtp/jtp.go as translated from the source
  (`Generated/GoJtp.lean`), carried across the equalities of `Props/Gen03.lean`: when the statements
  of `Get` that read a response return a document, when they follow a redirect, and that they
  never panic.  The model's `exchange` and `validateHeaders` appear in no statement below
  (`findLocation` does, in `response_again_iff`, for "the value of the first Location line"); the
  model's line recognisers (`readLine`, `parseStatusLine`, `headerValue`, `parseContentType`
  through `C03.HeadersOk`, `splitHeaders`) do: they are what the parameters of the translated
  code are instantiated with (`Gen03.Faithful`).
-/

namespace GenT03
open Jtp

variable {Url Doc : Type} {W : GenJtp.Ext Url Mime.MediaType Doc}

/-- The translated `validateHeaders` accepts exactly the terminated header blocks in which every
    Content-Type line parses to a tolerated type and there is at least one, and leaves the reader
    exactly after the blank line. -/
theorem validateHeaders_ok_iff (hW : Gen03.Faithful W) (tol : List Str) (s body : Str) :
    GenJtp.validateHeaders W s tol = .ok body ↔
      ∃ lines, splitHeaders (s.length + 1) s = some (lines, body) ∧ C03.HeadersOk tol lines := by
  rw [Gen03.validateHeaders_eq hW, Gen03.ofOption_ok_iff, C03.validateHeaders_iff]

/-- The translated `validateHeaders` never panics: the `mediaType` it calls `Matches` on is never
    nil, `matches[1]` is never out of range. -/
theorem validateHeaders_no_panic (hW : Gen03.Faithful W) (tol : List Str) (s : Str) (p : Panic) :
    GenJtp.validateHeaders W s tol ≠ .error (.panic p) := by
  rw [Gen03.validateHeaders_eq hW]
  exact Gen03.ofOption_no_panic _ p

/-- (C03 1b on the code) `Get` returns a document from a response iff the status line is well
    formed with a status among 200–203, the header block is terminated, every Content-Type line
    in it parses to a tolerated type and there is at least one, and the decoder accepts what
    follows the blank line; the source reported is the link asked for, and exactly that pair is
    remembered under the key. -/
theorem response_done_iff (hW : Gen03.Faithful W) (hc : W.closeFails = false) (link : Url)
    (tol : List Str) (n : Nat) (key resp : Str) (d : Doc) (src : Option Url)
    (added : List (Str × GenJtp.bundle Url Doc)) :
    GenJtp.Get_response W link tol n key resp = .ok (.done d src added) ↔
      ∃ sl rest status lines body, readLine resp = some (sl, rest) ∧ parseStatusLine sl = some status ∧
        status ∈ okStatuses ∧ splitHeaders (rest.length + 1) rest = some (lines, body) ∧
        C03.HeadersOk tol lines ∧ W.decode body = some d ∧ src = some link ∧
        added = [(key, { item := some d, source := some link, redirect := none })] := by
  rw [Gen03.response_eq hW hc]
  constructor
  · intro h
    rcases Gen03.replyOf_cases W link n key (exchange tol resp) with
      h' | ⟨body, d', he, hd, h'⟩ | ⟨_, _, _, _, _, h'⟩ <;> rw [h'] at h <;> cases h
    obtain ⟨sl, rest, status, lines, h1, h2, h3, h4, h5⟩ := (C03.exchange_doc_iff tol resp body).1 he
    exact ⟨sl, rest, status, lines, body, h1, h2, h3, h4, h5, hd, rfl, rfl⟩
  · rintro ⟨sl, rest, status, lines, body, h1, h2, h3, h4, h5, hd, rfl, rfl⟩
    have he := (C03.exchange_doc_iff tol resp body).2 ⟨sl, rest, status, lines, h1, h2, h3, h4, h5⟩
    simp [he, Gen03.replyOf, hd]

/-- (C03 on the code) `Get` follows a redirect iff the status starts with `3`, a Location line
    comes before the end of the header block, the value of the first one parses as a URL and the
    budget is not used up; it goes on with that reference resolved against the link asked for and
    one unit less, and remembers exactly that hop. -/
theorem response_again_iff (hW : Gen03.Faithful W) (hc : W.closeFails = false) (link : Url)
    (tol : List Str) (n : Nat) (key resp : Str) (next : Option Url) (m : Nat)
    (added : List (Str × GenJtp.bundle Url Doc)) :
    GenJtp.Get_response W link tol n key resp = .ok (.again next m added) ↔
      ∃ sl rest status v r, readLine resp = some (sl, rest) ∧ parseStatusLine sl = some status ∧
        status.head? = some '3' ∧ Jtp.findLocation (rest.length + 1) rest = some v ∧
        W.urlParse v = some r ∧ n ≠ 0 ∧ next = some (W.resolveReference link r) ∧ m = n - 1 ∧
        added = [(key, { item := none, source := none, redirect := some (W.resolveReference link r) })] := by
  rw [Gen03.response_eq hW hc]
  constructor
  · intro h
    rcases Gen03.replyOf_cases W link n key (exchange tol resp) with
      h' | ⟨_, _, _, _, h'⟩ | ⟨v, r, he, hu, hn, h'⟩ <;> rw [h'] at h <;> cases h
    obtain ⟨sl, rest, status, h1, h2, h3, h4⟩ := (C03.exchange_redirect_iff tol resp v).1 he
    exact ⟨sl, rest, status, v, r, h1, h2, h3, h4, hu, hn, rfl, rfl, rfl⟩
  · rintro ⟨sl, rest, status, v, r, h1, h2, h3, h4, hu, hn, rfl, rfl, rfl⟩
    have he := (C03.exchange_redirect_iff tol resp v).2 ⟨sl, rest, status, h1, h2, h3, h4⟩
    simp [he, Gen03.replyOf, hu, hn]

/-- Any other response is an error, never a panic: reading a response cannot crash `Get`. -/
theorem response_no_panic (hW : Gen03.Faithful W) (hc : W.closeFails = false) (link : Url)
    (tol : List Str) (n : Nat) (key resp : Str) (p : Panic) :
    GenJtp.Get_response W link tol n key resp ≠ .error (.panic p) := by
  rw [Gen03.response_eq hW hc]
  rcases Gen03.replyOf_cases W link n key (exchange tol resp) with
    h | ⟨_, _, _, _, h⟩ | ⟨_, _, _, _, _, h⟩ <;> rw [h] <;> nofun

/-- Not vacuous: a concrete response that the translated `Get` turns into a document (with a
    decoder that accepts `{}`), and a redirect it follows. -/
example :
    GenJtp.Get_response (Gen03.ext (Url := Str) (Doc := Str) some (fun _ r => r) (fun b => if b = "{}".toList then some b else none) false)
      "https://a/x".toList ["application/json".toList] 20 "k".toList
      "HTTP/1.1 200 OK\r\nServer: x\r\ncontent-type:  application/json; charset=utf-8 \r\n\r\n{}".toList
    = .ok (.done "{}".toList (some "https://a/x".toList)
        [("k".toList, { item := some "{}".toList, source := some "https://a/x".toList, redirect := none })]) := by
  -- the literals as character lists first: evaluating `String.toList` on a literal is slow to check;
  -- the model's `exchange` on the bytes is left to the kernel, which is much quicker at it than `rfl`
  repeat rewrite [String.toList_ofList]
  rewrite [Gen03.response_eq (Gen03.ext_faithful _ _ _ _) rfl]
  rewrite [(?_ : exchange _ _ = Outcome.doc ['{', '}'])]
  · rfl
  · decide +kernel

example :
    GenJtp.Get_response (Gen03.ext (Url := Str) (Doc := Str) some (fun _ r => r) (fun _ => none) false)
      "https://a/x".toList ["application/json".toList] 20 "k".toList
      "HTTP/1.0 301 Moved\r\nLocation: https://b/y\r\nLocation: https://c/z\r\n\r\n".toList
    = .ok (.again (some "https://b/y".toList) 19
        [("k".toList, { item := none, source := none, redirect := some "https://b/y".toList })]) := by
  repeat rewrite [String.toList_ofList]
  rewrite [Gen03.response_eq (Gen03.ext_faithful _ _ _ _) rfl]
  rewrite [(?_ : exchange _ _ = Outcome.redirect ['h', 't', 't', 'p', 's', ':', '/', '/', 'b', '/', 'y'])]
  · rfl
  · decide +kernel

end GenT03
