import Model
import Generated.Facts

/- Facts for C19 (defaults), C20 (how the hook process is created), C01/C14 (SGR literals). -/
namespace Facts19

/-- The defaults `config.parse` installs, as read from the source, beside the fields of
    `Config.defaults`: the same values, compared by eye (`Gen19.defaults_eq` ties the translated
    defaults to the model formally). -/
theorem defaults_match : Generated.configDefaults =
    ["config.Feeds=[]", "config.Media.Hook=[xdg-open,%url]", "config.Style.Colors.Primary=#A4f59b",
     "config.Style.Colors.Error=#9c3535", "config.Style.Colors.Highlight=#0d7d00",
     "config.Style.Colors.Code=#4b4b4b", "config.Network.Context=5", "config.Network.Timeout=10",
     "config.Network.CacheSize=128"] ∧
    Config.defaults.hook = ["xdg-open".toList, "%url".toList] ∧
    Config.defaults.primary = "#A4f59b".toList ∧ Config.defaults.error = "#9c3535".toList ∧
    Config.defaults.highlight = "#0d7d00".toList ∧ Config.defaults.code = "#4b4b4b".toList ∧
    Config.defaults.context = 5 ∧ Config.defaults.timeout = 10 ∧ Config.defaults.cacheSize = 128 := by
  dsimp only [Generated.configDefaults, Config.defaults]
  exact ⟨rfl, rfl, rfl, rfl, rfl, rfl, rfl, rfl, rfl⟩

/-- C20: the hook process is created by `exec.Command(command[0], command[1:]...)` and nowhere
    else — no shell, no command line built by concatenation. -/
theorem exec_shape : Generated.execCommands = ["command[0], command[1:]..."] := rfl

/-- C01/C14: the SGR parameters the style layer hands to `ansi.Apply` are the four literals and
    the two colour prefixes followed by a configured colour. -/
theorem sgr_arguments : Generated.sgrArguments =
    ["prefix=48;2;@rgb", "@prefix", "prefix=38;2;@rgb", "@prefix", "1", "9", "4", "3"] := rfl

theorem sgr_literals_ok : Cells.sgrOk ['1'] = true ∧ Cells.sgrOk ['9'] = true ∧ Cells.sgrOk ['4'] = true ∧
    Cells.sgrOk ['3'] = true := by decide

end Facts19
