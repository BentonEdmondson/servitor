import Model.Ui
import Generated.GoSwitch
import Props.Gen07
import Props.Gen18

/-
  The tie by translation for the part of ui/ui.go around the key handler: `switchTo`,
  `loadSurroundings` with the two loaders it starts, `subcommand` / `Subcommand`, `openUserInput`,
  `openFeed` with the goroutine each starts, and `SetWidthHeight` are translated from the source on
  every run (`extract/go2lean24.go` → `Generated/GoSwitch.lean`, namespace `GenSwitch`).  A
  translated function returns the state it leaves, the frames it drew (`s.output(s.view())`: the
  state each was drawn from) and the goroutines it started; a goroutine is two functions, its
  critical section (`…_done`, a function of the state at that moment, the position of the page
  the goroutine holds a pointer to, and what the world answered) and the whole (`…_goN`).

  Proved here, for every model state, terminal size and argument: each translated function, the
  goroutines it started run to completion one after the other (`settle`, `settledSub`), leaves what the
  model's function leaves (`Ui.setWidthHeight`, `Ui.loadSurroundings` with `Ui.upDone` / `Ui.downDone`,
  `Ui.switchTo`, `Ui.subcommand`); and the action parameters `loadSurroundings`, `switchTo`,
  `subcommand` of the translated `Update` (`Gen07.env`, Props/Gen07.lean) are this translated code.

  `E w` is the world as the translated code asks it (`Parents`, `Children`, `Harvest`,
  `FetchUserInput`, `NewSplicer`: the model's functions).  The numeric hypothesis
  `context + 1 < 2^64` (`context < 2^64` where only the loaders run) is what `uint(context + 1)`
  (`uint(context)`) needs; the configuration check bounds the preload amount by 2^31.
-/

namespace Gen07s
open Ui Pub Gen07

abbrev SPage := GenSwitch.Page GT Container
abbrev SState := GenSwitch.State GT Container
abbrev SOut := GenSwitch.Out GT Container
abbrev SEnv := GenSwitch.Env GT Container
abbrev SArg := GenSwitch.Arg GT Container

theorem modify_const {α : Type} (xs : List α) (i : Int) (p : α) (h0 : 0 ≤ i) (h1 : i.toNat < xs.length) :
    Go.modify xs i (fun _ => p) = .ok (xs.set i.toNat p) := by
  have hc : ¬ (i < 0 ∨ i ≥ (xs.length : Int)) := by omega
  haveI : Inhabited α := ⟨p⟩
  simp only [Go.modify, hc, if_false, List.modify_eq_set]

/-- A write through a `*Page` that the history holds. -/
theorem setPage_ok {P : Type} (h : GenHistory.History P) (pos : Int) (p : P) (h0 : 0 ≤ pos)
    (hl : pos.toNat < h.elements.length) :
    GenSwitch.setPage h pos p = .ok ⟨h.elements.set pos.toNat p, h.index⟩ := by
  simp only [GenSwitch.setPage, modify_const _ _ _ h0 hl, bind, Except.bind, pure, Except.pure]

theorem index_ok {α : Type} (xs : List α) (i : Int) (h0 : 0 ≤ i) (hl : i.toNat < xs.length) :
    Go.index xs i = .ok xs[i.toNat] := by
  have hn : ¬ i < 0 := by omega
  simp only [Go.index, hn, if_false, List.getElem?_eq_getElem hl]

theorem current_inv {α : Type} (h : GenHistory.History α) (p : α) (hc : GenHistory.Current h = .ok p) :
    0 ≤ h.index ∧ ∃ hl : h.index.toNat < h.elements.length, h.elements[h.index.toNat] = p := by
  unfold GenHistory.Current Go.index at hc
  split at hc
  · cases hc
  · split at hc
    · next hn x hg =>
      obtain ⟨hl, hx⟩ := List.getElem?_eq_some_iff.mp hg
      cases hc
      exact ⟨by omega, hl, hx⟩
    · cases hc

def sizeOf (g : SState) : Size := ⟨g.width, g.height⟩

theorem setWidthHeight_eq (g : SState) (w h : Int) :
    GenSwitch.SetWidthHeight g w h =
      .ok { state := { g with width := (setWidthHeight (sizeOf g) w h).1.width,
                              height := (setWidthHeight (sizeOf g) w h).1.height },
            frames := if (setWidthHeight (sizeOf g) w h).2
                      then [{ g with width := w, height := h }] else [],
            started := [] } := by
  obtain ⟨hist, gw, gh, m, b⟩ := g
  unfold GenSwitch.SetWidthHeight setWidthHeight sizeOf
  by_cases hw : gw = w <;> by_cases hh : gh = h <;>
    simp [hw, hh, pure, Except.pure]

def decPageS (gp : SPage) : Ui.Page :=
  { feed := decFeed gp.feed, frontier := gp.frontier.map decT, children := gp.children, basepoint := gp.basepoint }

def flagsOf (gp : SPage) : Flags := ⟨gp.loadingUp, gp.loadingDown⟩

theorem loadSurroundings_start (cfg : GenSwitch.Cfg) (g : SState) (gp : SPage)
    (hcur : GenHistory.Current g.h = .ok gp) (hctx : 0 ≤ cfg.context) :
    GenSwitch.loadSurroundings cfg g = .ok
      { state := { g with h := ⟨g.h.elements.set g.h.index.toNat
          ({ gp with loadingUp := (gp.loadingUp || startsUp cfg.context.toNat (decPageS gp) (flagsOf gp)),
                     loadingDown := (gp.loadingDown || startsDown cfg.context.toNat (decPageS gp) (flagsOf gp)) } : SPage),
          g.h.index⟩ },
        frames := [],
        started :=
          (if startsUp cfg.context.toNat (decPageS gp) (flagsOf gp)
            then [GenSwitch.Job.loadSurroundings_go1 g.h.index cfg.context] else []) ++
          (if startsDown cfg.context.toNat (decPageS gp) (flagsOf gp)
            then [GenSwitch.Job.loadSurroundings_go2 g.h.index cfg.context] else []) } := by
  obtain ⟨h0, hl, hget⟩ := current_inv g.h gp hcur
  have hu : startsUp cfg.context.toNat (decPageS gp) (flagsOf gp) = ((!gp.loadingUp &&
      !(decide (gp.feed.index + -cfg.context < gp.feed.upperBound) &&
        decide (gp.feed.index + -cfg.context > gp.feed.lowerBound))) && gp.frontier.isSome) := by
    simp only [startsUp, decPageS, flagsOf, Feed.contains, decFeed, Int.toNat_of_nonneg hctx, Option.isSome_map]
  have hd : startsDown cfg.context.toNat (decPageS gp) (flagsOf gp) = ((!gp.loadingDown &&
      !(decide (gp.feed.index + cfg.context < gp.feed.upperBound) &&
        decide (gp.feed.index + cfg.context > gp.feed.lowerBound))) && gp.children.isSome) := by
    simp only [startsDown, decPageS, flagsOf, Feed.contains, decFeed, Int.toNat_of_nonneg hctx]
  have hself : g.h.elements.set g.h.index.toNat gp = g.h.elements := by
    rw [← hget]; exact List.set_getElem_self _
  unfold GenSwitch.loadSurroundings
  -- the two tests of the code are the model's two conditions; then one case for each outcome of the pair
  simp only [hcur, GenFeed.Contains, pure_bind, Gen16v.land_pure, Gen16v.ok_bind, ← hu, ← hd]
  cases startsUp cfg.context.toNat (decPageS gp) (flagsOf gp) <;>
    cases startsDown cfg.context.toNat (decPageS gp) (flagsOf gp) <;>
    simp only [setPage_ok, h0, hl, hself, List.set_set, List.length_set, Gen16v.ok_bind, bind_pure_comp, ↓reduceIte,
      Bool.false_eq_true, Bool.or_true, Bool.or_false, List.nil_append, List.cons_append, List.append_nil] <;> rfl

/-- An empty history panics in `Current()`, as the model's does. -/
theorem loadSurroundings_nopage (cfg : GenSwitch.Cfg) (g : SState) (e : Panic)
    (hcur : GenHistory.Current g.h = .error e) : GenSwitch.loadSurroundings cfg g = .error e := by
  unfold GenSwitch.loadSurroundings
  simp only [hcur, bind, Except.bind]

def encPageF (p : Ui.Page) (fl : Flags) : SPage :=
  ⟨encFeed p.feed, p.frontier.map encT, fl.up, p.children, p.basepoint, fl.down⟩

/-- A settled page: no loader runs. -/
def encPageS (p : Ui.Page) : SPage := encPageF p {}

def encHS (h : History.H Ui.Page) : GenHistory.History SPage := ⟨h.elements.map encPageS, h.index⟩

def encS (wd ht : Int) (s : Ui.State) : SState := ⟨encHS s.hist, wd, ht, modeNum s.mode, s.buffer⟩

@[simp] theorem decPageS_encPageF (p : Ui.Page) (fl : Flags) : decPageS (encPageF p fl) = p := by
  cases p; simp [decPageS, encPageF, decFeed_encFeed, Function.comp_def]

@[simp] theorem flagsOf_encPageF (p : Ui.Page) (fl : Flags) : flagsOf (encPageF p fl) = fl := rfl

def targetArg : Ui.Target → SArg
  | .list xs => .tangibles (xs.map fun x => some (encT x))
  | .item x => .tangible (encT x)
  | .container c => .container c

def E (w : World) : SEnv where
  Tangible_Parents x q :=
    .ok ((parentsOf w q (decT x)).1.map (fun y => some (encT y)), (parentsOf w q (decT x)).2.map encT)
  Tangible_Children x := .ok (children (decT x))
  Container_Harvest c a st :=
    .ok ((c.harvest w a st).1.map (fun y => some (encT y)), (c.harvest w a st).2.1, (c.harvest w a st).2.2)
  FetchUserInput text := .ok (targetArg (targetOfItem (fetchUserInput w text)))
  NewSplicer inputs := .ok (.feed (newSplicer w inputs))

theorem E_parents (w : World) (x : GT) (q : Nat) : (E w).Tangible_Parents x q =
    .ok ((parentsOf w q (decT x)).1.map (fun y => some (encT y)), (parentsOf w q (decT x)).2.map encT) := rfl
theorem E_children (w : World) (x : GT) : (E w).Tangible_Children x = .ok (children (decT x)) := rfl
theorem E_harvest (w : World) (c : Container) (a st : Nat) : (E w).Container_Harvest c a st =
    .ok ((c.harvest w a st).1.map (fun y => some (encT y)), (c.harvest w a st).2.1, (c.harvest w a st).2.2) := rfl
theorem E_fetch (w : World) (t : Str) :
    (E w).FetchUserInput t = .ok (targetArg (targetOfItem (fetchUserInput w t))) := rfl
theorem E_splicer (w : World) (i : List Str) : (E w).NewSplicer i = .ok (.feed (newSplicer w i)) := rfl

/-- `config.Parsed` as the model state carries it. -/
def cfgOf (s : Ui.State) : GenSwitch.Cfg :=
  ⟨(s.context : Int), fun k => (s.feeds.find? (fun f => f.1 = k)).map (·.2)⟩

theorem prepend_map {α β : Type} (h : α → β) (f : Feed.F α) (xs : List α) :
    Feed.prepend (mapF h f) (xs.map h) = mapF h (Feed.prepend f xs) := by
  simp only [Feed.prepend, mapF, List.length_map, List.getElem?_map, apply_ite (Option.map h)]

theorem append_map {α β : Type} (h : α → β) (f : Feed.F α) (xs : List α) :
    Feed.append (mapF h f) (xs.map h) = mapF h (Feed.append f xs) := by
  simp only [Feed.append, mapF, List.length_map, List.getElem?_map, apply_ite (Option.map h)]

theorem some_enc_map (xs : List T) : xs.map (fun x => some (encT x)) = (xs.map encT).map some := by
  simp [List.map_map, Function.comp_def]

theorem prepend_enc (f : Feed.F T) (xs : List T) :
    GenFeed.Prepend (encFeed f) (xs.map fun x => some (encT x)) = .ok (encFeed (Feed.prepend f xs)) := by
  rw [encFeed_eq, some_enc_map, Gen18.prepend_eq, prepend_map, encFeed_eq]

theorem append_enc (f : Feed.F T) (xs : List T) :
    GenFeed.Append (encFeed f) (xs.map fun x => some (encT x)) = .ok (encFeed (Feed.append f xs)) := by
  rw [encFeed_eq, some_enc_map, Gen18.append_eq, append_map, encFeed_eq]

theorem createAndAppend_enc (xs : List T) :
    GenFeed.CreateAndAppend (xs.map fun x => some (encT x)) = .ok (encFeed (Feed.createAndAppend xs)) := by
  rw [some_enc_map, Gen18.createAndAppend_eq, encFeed_eq, Feed.createAndAppend, Feed.createAndAppend, ← append_map]
  rfl

theorem create_enc (x : T) : GenFeed.Create (some (encT x)) = .ok (encFeed (Feed.create x)) := by
  rw [Gen18.create_eq, encFeed_eq]
  simp only [Feed.create, mapF, apply_ite (Option.map encT), Option.map_some, Option.map_none]

/-- The critical section of the upward loader, on any state that holds the loader's page at
    `pos` (current or not), whatever the flags, for every answer of the world: the answer is
    prepended to THAT page's feed, its frontier replaced, its `loadingUp` cleared; one frame;
    nothing else of the state changes. -/
theorem go1_done_eq (g : SState) (pos ctx : Int) (p : Ui.Page) (fl : Flags) (h0 : 0 ≤ pos)
    (hl : pos.toNat < g.h.elements.length) (hget : g.h.elements[pos.toNat] = encPageF p fl)
    (ps : List T) (nf : Option T) :
    GenSwitch.loadSurroundings_go1_done g pos ctx (ps.map fun x => some (encT x)) (nf.map encT) =
      .ok { state := { g with h := ⟨g.h.elements.set pos.toNat
                (encPageF { p with feed := Feed.prepend p.feed ps, frontier := nf } { fl with up := false }), g.h.index⟩ },
            frames := [{ g with h := ⟨g.h.elements.set pos.toNat
                (encPageF { p with feed := Feed.prepend p.feed ps, frontier := nf } { fl with up := false }), g.h.index⟩ }],
            started := [] } := by
  unfold GenSwitch.loadSurroundings_go1_done
  simp only [index_ok _ _ h0 hl, hget, bind, Except.bind, pure, Except.pure, setPage_ok, h0, hl, List.length_set, encPageF,
    prepend_enc, List.set_set, List.nil_append]

theorem go2_done_eq (g : SState) (pos ctx : Int) (p : Ui.Page) (fl : Flags) (h0 : 0 ≤ pos)
    (hl : pos.toNat < g.h.elements.length) (hget : g.h.elements[pos.toNat] = encPageF p fl)
    (cs : List T) (nc : Option Container) (nb : Nat) :
    GenSwitch.loadSurroundings_go2_done g pos ctx (cs.map fun x => some (encT x)) nc nb =
      .ok { state := { g with h := ⟨g.h.elements.set pos.toNat
                (encPageF { p with feed := Feed.append p.feed cs, children := nc, basepoint := nb } { fl with down := false }), g.h.index⟩ },
            frames := [{ g with h := ⟨g.h.elements.set pos.toNat
                (encPageF { p with feed := Feed.append p.feed cs, children := nc, basepoint := nb } { fl with down := false }), g.h.index⟩ }],
            started := [] } := by
  unfold GenSwitch.loadSurroundings_go2_done
  simp only [index_ok _ _ h0 hl, hget, bind, Except.bind, pure, Except.pure, setPage_ok, h0, hl, List.length_set, encPageF,
    append_enc, List.set_set, List.nil_append]

/-- The upward loader as a whole, against the model's world: it leaves `Ui.upDone` of its page. -/
theorem go1_eq (w : World) (g : SState) (pos : Int) (ctx : Nat) (p : Ui.Page) (fl : Flags) (h0 : 0 ≤ pos)
    (hl : pos.toNat < g.h.elements.length) (hget : g.h.elements[pos.toNat] = encPageF p fl)
    (hfr : p.frontier.isSome = true) (hc : ctx < 2 ^ 64) :
    GenSwitch.loadSurroundings_go1 (E w) g pos (ctx : Int) =
      .ok { state := { g with h := ⟨g.h.elements.set pos.toNat (encPageF (upDone w ctx p) { fl with up := false }), g.h.index⟩ },
            frames := [{ g with h := ⟨g.h.elements.set pos.toNat (encPageF (upDone w ctx p) { fl with up := false }), g.h.index⟩ }],
            started := [] } := by
  obtain ⟨fr, hfr'⟩ := Option.isSome_iff_exists.mp hfr
  have hf : (encPageF p fl).frontier = some (encT fr) := by rw [encPageF, hfr']; rfl
  unfold GenSwitch.loadSurroundings_go1
  simp only [index_ok _ _ h0 hl, hget, hf, bind, Except.bind, Go.deref, E_parents, Gen16.toUint_natCast ctx hc, decT_encT]
  rw [go1_done_eq g pos ctx p fl h0 hl hget, upDone, hfr']

theorem go2_eq (w : World) (g : SState) (pos : Int) (ctx : Nat) (p : Ui.Page) (fl : Flags) (h0 : 0 ≤ pos)
    (hl : pos.toNat < g.h.elements.length) (hget : g.h.elements[pos.toNat] = encPageF p fl)
    (hch : p.children.isSome = true) (hc : ctx < 2 ^ 64) :
    GenSwitch.loadSurroundings_go2 (E w) g pos (ctx : Int) =
      .ok { state := { g with h := ⟨g.h.elements.set pos.toNat (encPageF (downDone w ctx p) { fl with down := false }), g.h.index⟩ },
            frames := [{ g with h := ⟨g.h.elements.set pos.toNat (encPageF (downDone w ctx p) { fl with down := false }), g.h.index⟩ }],
            started := [] } := by
  obtain ⟨c, hch'⟩ := Option.isSome_iff_exists.mp hch
  have hf : (encPageF p fl).children = some c := hch'
  unfold GenSwitch.loadSurroundings_go2
  simp only [index_ok _ _ h0 hl, hget, hf, bind, Except.bind, Go.deref, E_harvest, Gen16.toUint_natCast ctx hc]
  rw [show (encPageF p fl).basepoint = p.basepoint from rfl, go2_done_eq g pos ctx p fl h0 hl hget, downDone, hch']

/-- The schedule in which the goroutines a call started run one after the other, in the order of their
    `go` statements, each as a whole (`GenSwitch.run`: its fetch and its critical section under `s.m`,
    with nothing in between).  The Go scheduler may order and interleave them otherwise. -/
def runAll (Ev : SEnv) (cfg : GenSwitch.Cfg) : SState → List GenSwitch.Job → Except Panic SState
  | g, [] => .ok g
  | g, j :: js =>
    match GenSwitch.run Ev cfg g j with
    | .error e => .error e
    | .ok o => runAll Ev cfg o.state js

/-- The caller's writes of `mode` and `buffer` that follow a call (`openUserInput`'s goroutine sets
    both after `switchTo` returns, before the loaders it started get the mutex); `none`: no write. -/
def setMB (mb : Option (Int × Str)) (g : SState) : SState :=
  match mb with
  | none => g
  | some (m, b) => { g with mode := m, buffer := b }

/-- What a translated function leaves once the goroutines it started have finished (the caller's
    writes `mb` coming first). -/
def settle (Ev : SEnv) (cfg : GenSwitch.Cfg) (mb : Option (Int × Str)) : Except Panic SOut → Except Panic SState
  | .error e => .error e
  | .ok o => runAll Ev cfg (setMB mb o.state) o.started

theorem current_encHS (h : History.H Ui.Page) : GenHistory.Current (encHS h) = (History.current h).map encPageS :=
  current_map ..

theorem upDone_children (w : World) (ctx : Nat) (p : Ui.Page) : (upDone w ctx p).children = p.children := by
  unfold upDone; cases p.frontier <;> rfl

/-- The loaders `loadSurroundings` started (`u`, `d`: which), run one after the other on a state that holds their
    page at `pos` with the flags of those started set: the page becomes its `upDone`, then `downDone`, no flag set. -/
theorem runAll_loaders (w : World) (cfg : GenSwitch.Cfg) (g : SState) (pos : Int) (ctx : Nat) (p : Ui.Page) (u d : Bool)
    (h0 : 0 ≤ pos) (hl : pos.toNat < g.h.elements.length) (hget : g.h.elements[pos.toNat] = encPageF p ⟨u, d⟩)
    (hu : u = true → p.frontier.isSome = true) (hd : d = true → p.children.isSome = true) (hc : ctx < 2 ^ 64) :
    runAll (E w) cfg g ((if u then [.loadSurroundings_go1 pos ctx] else []) ++
        (if d then [.loadSurroundings_go2 pos ctx] else [])) =
      .ok { g with h := ⟨g.h.elements.set pos.toNat (encPageS
              (let p1 := if u then upDone w ctx p else p
               if d then downDone w ctx p1 else p1)), g.h.index⟩ } := by
  cases u <;> cases d
  · have : g.h.elements.set pos.toNat (encPageS p) = g.h.elements := by
      rw [encPageS, ← hget]; exact List.set_getElem_self _
    simp only [Bool.false_eq_true, if_false, List.append_nil, runAll, this]
  · simp only [Bool.false_eq_true, if_false, if_true, List.nil_append, runAll, GenSwitch.run,
      go2_eq w g pos ctx p _ h0 hl hget (hd rfl) hc]
    rfl
  · simp only [Bool.false_eq_true, if_false, if_true, List.append_nil, runAll, GenSwitch.run,
      go1_eq w g pos ctx p _ h0 hl hget (hu rfl) hc]
    rfl
  · simp only [if_true, List.cons_append, List.nil_append, runAll, GenSwitch.run,
      go1_eq w g pos ctx p _ h0 hl hget (hu rfl) hc]
    -- the downward loader finds the page as the upward one left it
    rw [go2_eq w _ pos ctx (upDone w ctx p) ⟨false, true⟩ h0 (by rwa [List.length_set]) (List.getElem_set_self _)
      (by rw [upDone_children]; exact hd rfl) hc]
    simp only [List.set_set]
    rfl

theorem loadSurroundings_settled (w : World) (wd ht : Int) (s : Ui.State) (mb : Option (Int × Str))
    (hc : s.context < 2 ^ 64) :
    settle (E w) (cfgOf s) mb (GenSwitch.loadSurroundings (cfgOf s) (encS wd ht s)) =
      (Ui.loadSurroundings w s).map (fun s' => setMB mb (encS wd ht s')) := by
  rw [Ui.loadSurroundings_eq_loaders]
  have hcur := current_encHS s.hist
  cases hm : History.current s.hist with
  | error e =>
    rw [hm] at hcur
    rw [loadSurroundings_nopage (cfgOf s) (encS wd ht s) e hcur]
    simp only [settle, Except.map]
  | ok page =>
    rw [hm] at hcur
    obtain ⟨-, hl, -⟩ := current_inv _ _ hcur
    have hfr : startsUp s.context page {} = true → page.frontier.isSome = true :=
      fun h => (Bool.and_eq_true_iff.mp h).2
    have hch : startsDown s.context page {} = true → page.children.isSome = true :=
      fun h => (Bool.and_eq_true_iff.mp h).2
    rw [loadSurroundings_start (cfgOf s) (encS wd ht s) (encPageS page) hcur (Int.natCast_nonneg _)]
    -- the caller's writes touch neither the history nor the size
    obtain ⟨M, B, hMB⟩ : ∃ M B, ∀ h, setMB mb ⟨h, wd, ht, modeNum s.mode, s.buffer⟩ = ⟨h, wd, ht, M, B⟩ := by
      rcases mb with _ | ⟨m, b⟩ <;> exact ⟨_, _, fun _ => rfl⟩
    simp only [settle, encS, encHS, hMB, encPageS, decPageS_encPageF, flagsOf_encPageF, cfgOf, Int.toNat_natCast]
    rw [runAll_loaders w _ _ _ _ page _ _ (Int.natCast_nonneg _) (by rw [List.length_set]; exact hl)
      (List.getElem_set_self _) hfr hch hc]
    simp only [List.set_set, setCurrent, List.map_set, Except.map, hMB, Int.toNat_natCast, encPageS]

theorem add_encHS (h : History.H Ui.Page) (p : Ui.Page) :
    GenHistory.Add (encHS h) (encPageS p) = (History.add h p).map encHS := by
  have := Gen18.add_eq (⟨h.elements.map encPageS, h.index⟩ : History.H SPage) (encPageS p)
  simp only [Gen18.toGenH] at this
  simp only [encHS, this, History.add, List.isEmpty_map, List.length_map]
  by_cases he : h.elements.isEmpty = true
  · simp [he, Except.map, Gen18.toGenH, encHS]
  · by_cases hc : h.index + 1 > h.elements.length
    · simp [he, hc, Except.map]
    · simp [he, hc, Except.map, List.map_take, Gen18.toGenH, encHS]

/-- `Gen16v.ok_bind` in the form `simp only [bind]` leaves a `do` block in. -/
theorem bind_ok {ε α β : Type} (a : α) (f : α → Except ε β) : Except.bind (.ok a) f = f a := Gen16v.ok_bind a f
theorem bind_err {ε α β : Type} (e : ε) (f : α → Except ε β) : Except.bind (.error e) f = .error e := rfl

/-- `settle` looks at neither the frames nor how the list of goroutines is bracketed. -/
theorem settle_bind (Ev : SEnv) (cfg : GenSwitch.Cfg) (mb : Option (Int × Str)) (R : Except Panic SOut) (fr : List SState) :
    settle Ev cfg mb (R.bind fun v => .ok { state := v.state, frames := fr ++ v.frames, started := [] ++ v.started }) =
      settle Ev cfg mb R := by
  cases R <;> rfl

/-- What every case of `switchTo` ends in: the page is added to the history and `loadSurroundings` called, its
    frames and goroutines handed on. -/
theorem add_settle (w : World) (wd ht : Int) (s : Ui.State) (mb : Option (Int × Str)) (p : Ui.Page) (fr : List SState)
    (hc : s.context < 2 ^ 64) :
    settle (E w) (cfgOf s) mb
      (Except.bind (GenHistory.Add (encHS s.hist) (encPageS p)) fun h =>
        Except.bind (GenSwitch.loadSurroundings (cfgOf s) ⟨h, wd, ht, modeNum s.mode, s.buffer⟩) fun v =>
          .ok { state := v.state, frames := fr ++ v.frames, started := [] ++ v.started }) =
      (match History.add s.hist p with
       | .error e => Except.error e
       | .ok h => Ui.loadSurroundings w { s with hist := h }).map fun s' => setMB mb (encS wd ht s') := by
  rw [add_encHS]
  cases History.add s.hist p with
  | error e => rfl
  | ok h =>
    exact (settle_bind ..).trans (loadSurroundings_settled w wd ht { s with hist := h } mb hc)

theorem switchTo_eq (w : World) (wd ht : Int) (s : Ui.State) (mb : Option (Int × Str)) (t : Ui.Target) (hc : s.context + 1 < 2 ^ 64) :
    settle (E w) (cfgOf s) mb (GenSwitch.switchTo (E w) (cfgOf s) (encS wd ht s) (targetArg t)) =
      (Ui.switchTo w s t).map (fun s' => setMB mb (encS wd ht s')) := by
  have hc' : s.context < 2 ^ 64 := by omega
  unfold GenSwitch.switchTo
  cases t with
  | item x =>
    simp only [targetArg, Ui.switchTo, bind, pure, Except.pure, E_parents, E_children, create_enc, decT_encT, bind_ok]
    exact add_settle w wd ht s mb (pageOf w x) [] hc'
  | container c =>
    have hu : Go.toUint ((cfgOf s).context + 1) = s.context + 1 := Gen16.toUint_natCast (s.context + 1) hc
    simp only [targetArg, Ui.switchTo, bind, pure, Except.pure, E_harvest, createAndAppend_enc, bind_ok, hu, str_empty]
    generalize c.harvest w (s.context + 1) 0 = r
    by_cases hm : modeNum s.mode = GenSwitch.loading <;>
      simp only [encS, hm, ne_eq, not_true_eq_false, not_false_eq_true, decide_false, decide_true, Bool.false_eq_true,
        if_false, if_true] <;>
      exact add_settle w wd ht { s with mode := .normal, buffer := [] } mb
        { feed := Feed.createAndAppend r.1, children := r.2.1, basepoint := r.2.2 } _ hc'
  | list xs =>
    match xs with
    | [] => simp [targetArg, Ui.switchTo, pure, Except.pure, Go.len, settle, runAll, Except.map]
    | [x] =>
      have i0 : Go.index [some (encT x)] 0 = .ok (some (encT x)) := rfl
      have l1 : Go.len [some (encT x)] = 1 := rfl
      simp only [targetArg, Ui.switchTo, bind, pure, Except.pure, E_parents, E_children, create_enc, decT_encT, bind_ok, i0, l1, Go.deref,
        Int.reduceEq, decide_false, decide_true, Bool.false_eq_true, if_false, if_true, List.map]
      exact add_settle w wd ht s mb (pageOf w x) [] hc'
    | x :: y :: zs =>
      have l0 : ¬ Go.len ((x :: y :: zs).map fun t => some (encT t)) = 0 := by
        simp only [Go.len, List.length_map, List.length_cons]; omega
      have l1 : ¬ Go.len ((x :: y :: zs).map fun t => some (encT t)) = 1 := by
        simp only [Go.len, List.length_map, List.length_cons]; omega
      simp only [targetArg, Ui.switchTo, bind, pure, Except.pure, createAndAppend_enc, bind_ok, l0, l1, decide_false, Bool.false_eq_true, if_false]
      exact add_settle w wd ht s mb { feed := Feed.createAndAppend (x :: y :: zs) } [] hc'

/-- Anything that is neither an item, a list of items nor a container (a nil interface, say) is the
    panic of the `default` case. -/
theorem switchTo_other (Ev : SEnv) (cfg : GenSwitch.Cfg) (g : SState) :
    GenSwitch.switchTo Ev cfg g .other = .error (.explicit "can't switch to non-Tangible non-Container") := by
  unfold GenSwitch.switchTo
  rfl

/-- Started goroutines run one after the other, each followed by the goroutines it started in turn
    (the loaders, which start none). -/
def runDeep (Ev : SEnv) (cfg : GenSwitch.Cfg) : SState → List GenSwitch.Job → Except Panic SState
  | g, [] => .ok g
  | g, j :: js =>
    match GenSwitch.run Ev cfg g j with
    | .error e => .error e
    | .ok o =>
      match runAll Ev cfg o.state o.started with
      | .error e => .error e
      | .ok g' => runDeep Ev cfg g' js

/-- `subcommand` and everything it starts, run to completion: the state, and the error returned. -/
def settledSub (Ev : SEnv) (cfg : GenSwitch.Cfg) (g : SState) (name arg : Str) : Except Panic (SState × Option Str) :=
  match GenSwitch.subcommand cfg g name arg with
  | .error e => .error e
  | .ok (o, err) =>
    match runDeep Ev cfg o.state o.started with
    | .error e => .error e
    | .ok g' => .ok (g', err)

theorem toList_empty : "".toList = ([] : List Char) := rfl

theorem encS_loading (wd ht : Int) (s : Ui.State) :
    ({ encS wd ht s with mode := GenSwitch.loading, buffer := "".toList } : SState) =
      encS wd ht { s with mode := .loading, buffer := [] } := rfl

theorem run_openFeed (w : World) (cfg : GenSwitch.Cfg) (g : SState) (inputs : List Str) :
    GenSwitch.run (E w) cfg g (.openFeed_go1 inputs) =
      GenSwitch.openUserInput_go1_done (E w) cfg g [] (.container (.feed (newSplicer w inputs))) := rfl

/-- `open` and `feed` from the point where they part: a goroutine `j` that ends like that of `openUserInput`
    (`switchTo` on what was fetched, then normal mode and an empty buffer: `openFeed`'s does), and after it the
    loaders it started.  (`cfg` is a variable of its own because the callers' `s` is a record update, whose `cfgOf`
    is `cfgOf` of the state updated only up to unfolding.) -/
theorem runDeep_open (w : World) (wd ht : Int) (s : Ui.State) (t : Ui.Target) (hc : s.context + 1 < 2 ^ 64)
    (cfg : GenSwitch.Cfg) (hcfg : cfg = cfgOf s) (j : GenSwitch.Job)
    (hj : GenSwitch.run (E w) cfg (encS wd ht s) j =
      GenSwitch.openUserInput_go1_done (E w) cfg (encS wd ht s) [] (targetArg t)) :
    runDeep (E w) cfg (encS wd ht s) [j] =
      (Ui.switchTo w s t).map fun s' => encS wd ht { s' with mode := .normal, buffer := [] } := by
  subst hcfg
  refine Eq.trans ?_ (switchTo_eq w wd ht s (some (GenSwitch.normal, [])) t hc)
  simp only [runDeep, hj, GenSwitch.openUserInput_go1_done, bind, Except.bind, pure, Except.pure]
  cases GenSwitch.switchTo (E w) (cfgOf s) (encS wd ht s) (targetArg t) with
  | error e => rfl
  | ok r =>
    simp only [settle, setMB, List.nil_append, str_empty]
    cases runAll (E w) (cfgOf s) _ _ <;> rfl

theorem subcommand_eq (w : World) (wd ht : Int) (s : Ui.State) (name arg : Str) (hc : s.context + 1 < 2 ^ 64) :
    settledSub (E w) (cfgOf s) (encS wd ht s) name arg =
      if name = "open".toList ∨ name = "feed".toList then
        (Ui.subcommand w s name arg).map (fun s' => (encS wd ht s', none))
      else .ok (encS wd ht s, some ("unrecognized subcommand: ".toList ++ name)) := by
  unfold settledSub GenSwitch.subcommand Ui.subcommand
  by_cases h1 : name = "open".toList
  · simp only [h1, true_or, if_true, Go.str, decide_true, GenSwitch.openUserInput, bind, Except.bind, pure, Except.pure,
      List.nil_append, Ui.openItem, encS_loading]
    rw [runDeep_open w wd ht { s with mode := .loading, buffer := [] } (targetOfItem (fetchUserInput w arg)) hc
      (cfgOf s) rfl (.openUserInput_go1 arg) rfl]
    cases Ui.switchTo w _ _ <;> rfl
  · by_cases h2 : name = "feed".toList
    · have hne : ¬ ("feed".toList = "open".toList) := by simp only [String.toList_inj, String.reduceEq, not_false_eq_true]
      simp only [h2, hne, or_true, if_true, Go.str, decide_true, decide_false, Bool.false_eq_true, if_false, GenSwitch.openFeed, bind, Except.bind, pure, Except.pure,
        List.nil_append]
      cases hf : s.feeds.find? (fun f => f.1 = arg) with
      | none =>
        have hcf : (cfgOf s).feeds arg = none := by simp [cfgOf, hf]
        simp only [hcf, Option.isSome_none, Bool.not_false, if_true, runDeep, toList_empty]
        rfl
      | some fi =>
        obtain ⟨_, inputs⟩ := fi
        have hcf : (cfgOf s).feeds arg = some inputs := by simp [cfgOf, hf]
        simp only [hcf, Option.isSome_some, Bool.not_true, Bool.false_eq_true, if_false, Option.getD_some, encS_loading]
        rw [runDeep_open w wd ht { s with mode := .loading, buffer := [] } (.container (.feed (newSplicer w inputs))) hc
          (cfgOf s) rfl (.openFeed_go1 inputs) (run_openFeed ..)]
        cases Ui.switchTo w _ _ <;> rfl
    · simp only [h1, h2, or_self, Go.str, decide_false, Bool.false_eq_true, if_false, pure, Except.pure, runDeep]

/-- **`Subcommand`** (the entry point main.go calls): `feed` with a name that is not configured is
    refused before anything happens — the state untouched, nothing drawn, nothing started, the
    error text the source builds —; everything else is `subcommand`, its frames, goroutines and
    error handed on. -/
theorem Subcommand_eq (cfg : GenSwitch.Cfg) (g : SState) (name arg : Str) :
    GenSwitch.Subcommand cfg g name arg =
      if name = "feed".toList ∧ cfg.feeds arg = none then
        .ok (⟨g, [], []⟩, some ("failed to open feed: ".toList ++ arg ++ " is not a known feed".toList))
      else
        match GenSwitch.subcommand cfg g name arg with
        | .error e => .error e
        | .ok r => .ok (⟨r.1.state, r.1.frames, r.1.started⟩, r.2) := by
  unfold GenSwitch.Subcommand
  by_cases hn : name = "feed".toList <;> cases hf : cfg.feeds arg <;>
    simp only [hn, Go.str, bind, Except.bind, pure, Except.pure, decide_true, decide_false, if_true, if_false,
      Option.isSome_some, Option.isSome_none, Bool.not_true, Bool.not_false, Bool.false_eq_true, reduceCtorEq, and_false,
      and_true, and_self, List.nil_append] <;>
    generalize GenSwitch.subcommand cfg g _ arg = R <;>
    rcases R with _ | ⟨o, _ | _⟩ <;> rfl

/-- A state of the translated `Update` as a state of the functions translated here: the same
    history, feeds, mode and buffer; the page fields `Update` carries as `rest` in their places; no
    loader running; the terminal size, which `Update` does not carry, given. -/
def toS (wd ht : Int) (g : GState) : SState :=
  ⟨⟨g.h.elements.map (fun gp => ⟨gp.feed, gp.rest.1.map encT, false, gp.rest.2.1, gp.rest.2.2, false⟩), g.h.index⟩,
   wd, ht, g.mode, g.buffer⟩

/-- Back: the size and the flags are dropped. -/
def ofS (g : SState) : GState :=
  ⟨⟨g.h.elements.map (fun p => ⟨p.feed, (p.frontier.map decT, p.children, p.basepoint)⟩), g.h.index⟩, g.mode, g.buffer⟩

theorem toS_enc (wd ht : Int) (s : Ui.State) : toS wd ht (enc s) = encS wd ht s := by
  simp only [toS, enc, encS, encH, encHS, List.map_map]
  rfl

theorem ofS_encS (wd ht : Int) (s : Ui.State) : ofS (encS wd ht s) = enc s := by
  simp [ofS, enc, encS, encH, encHS, encPageS, encPageF, encPage, Function.comp_def]

theorem map_ofS (wd ht : Int) (r : Except Panic Ui.State) :
    (r.map fun s' => setMB none (encS wd ht s')).map ofS = r.map enc := by
  cases r <;> simp [Except.map, setMB, ofS_encS]

/-- What `Update` hands `switchTo`, as the translated `switchTo` sees it: a nil `pub.Tangible` in
    the `any` is none of the three cases. -/
def argS : GArg → SArg
  | .tangible (some x) => .tangible x
  | .tangible none => .other
  | .tangibles xs => .tangibles xs

theorem allSome_enc (xs : List (Option GT)) (ys : List T) (h : allSome xs = some ys) :
    ys.map (fun y => some (encT y)) = xs := by
  induction xs generalizing ys with
  | nil => simp only [allSome, Option.some.injEq, List.nil_eq] at h; subst h; rfl
  | cons a t ih =>
    cases a with
    | none => simp [allSome] at h
    | some x =>
      simp only [allSome, Option.map_eq_some_iff] at h
      obtain ⟨zs, hz, rfl⟩ := h
      simp [ih zs hz, encT_decT]

/-- **`loadSurroundings` of `Gen07.env` is the translated `loadSurroundings`** with its loaders run
    to completion, at every encoded state. -/
theorem env_loadSurroundings (w : World) (wd ht : Int) (s : Ui.State) (hc : s.context < 2 ^ 64) :
    (env w s.context s.feeds).loadSurroundings (enc s) =
      (settle (E w) (cfgOf s) none (GenSwitch.loadSurroundings (cfgOf s) (toS wd ht (enc s)))).map ofS := by
  rw [toS_enc, loadSurroundings_settled w wd ht s none hc, map_ofS]
  exact lift_enc s _

/-- **`switchTo` of `Gen07.env` is the translated `switchTo`**, at every encoded state, for an item,
    a nil interface, and every list without a nil in it (every list `Post.Creators` /
    `Recipients` return). -/
theorem env_switchTo (w : World) (wd ht : Int) (s : Ui.State) (a : GArg) (hc : s.context + 1 < 2 ^ 64)
    (ha : ∀ xs, a = .tangibles xs → allSome xs ≠ none) :
    (env w s.context s.feeds).switchTo (enc s) a =
      (settle (E w) (cfgOf s) none (GenSwitch.switchTo (E w) (cfgOf s) (toS wd ht (enc s)) (argS a))).map ofS := by
  rw [toS_enc]
  have fin : ∀ t : Ui.Target, argS a = targetArg t → argOf a = .ok t →
      (env w s.context s.feeds).switchTo (enc s) a =
        (settle (E w) (cfgOf s) none (GenSwitch.switchTo (E w) (cfgOf s) (encS wd ht s) (argS a))).map ofS := by
    intro t h1 h2
    rw [h1, switchTo_eq w wd ht s none t hc, map_ofS]
    simp only [env, h2, lift_enc]
  cases a with
  | tangible x =>
    cases x with
    | none =>
      simp only [argS, switchTo_other, settle, Except.map, env, argOf]
    | some x => exact fin (.item (decT x)) (by simp [argS, targetArg, encT_decT]) rfl
  | tangibles xs =>
    cases hs : allSome xs with
    | none => exact absurd hs (ha xs rfl)
    | some ys =>
      exact fin (.list ys) (by simp [argS, targetArg, allSome_enc xs ys hs]) (by simp [argOf, hs])

/-- **`subcommand` of `Gen07.env` is the translated `subcommand`** (with `openUserInput`, `openFeed`,
    their goroutines, `switchTo` and the loaders run to completion), at every encoded state. -/
theorem env_subcommand (w : World) (wd ht : Int) (s : Ui.State) (name arg : Str) (hc : s.context + 1 < 2 ^ 64) :
    (env w s.context s.feeds).subcommand (enc s) name arg =
      (settledSub (E w) (cfgOf s) (toS wd ht (enc s)) name arg).map (fun r => (ofS r.1, r.2)) := by
  rw [toS_enc, subcommand_eq w wd ht s name arg hc, subcommand_env]
  split
  · cases Ui.subcommand w s name arg <;> simp only [Except.map, ofS_encS]
  · simp only [Except.map, ofS_encS]

/-- `config.Parsed` as the parameters of `Gen07.env` give it. -/
def cfgC (ctx : Nat) (feeds : List (Str × List Str)) : GenSwitch.Cfg :=
  ⟨(ctx : Int), fun k => (feeds.find? (fun f => f.1 = k)).map (·.2)⟩

/-- A list handed to `switchTo` holds no nil (every list `Post.Creators` / `Recipients` return in the
    model's worlds). -/
def NoNil (a : GArg) : Prop := ∀ xs, a = .tangibles xs → allSome xs ≠ none

attribute [local instance] Classical.propDecidable in
/-- **`Gen07.env` with its three action parameters replaced by translated code**: `loadSurroundings`,
    `switchTo` and `subcommand` are the functions of `Generated/GoSwitch.lean` (goroutines run to
    completion against the model's world `E w`), on every state that is the encoding of a model
    state — by `Gen07.enc_dec` every state whose mode is one of the six and whose history index
    is not negative — and, for `switchTo`, every argument without a nil inside a list. -/
noncomputable def env2 (w : World) (wd ht : Int) (ctx : Nat) (feeds : List (Str × List Str)) : GEnv :=
  { env w ctx feeds with
    loadSurroundings := fun g =>
      if enc (dec ctx feeds g) = g then
        (settle (E w) (cfgC ctx feeds) none (GenSwitch.loadSurroundings (cfgC ctx feeds) (toS wd ht g))).map ofS
      else (env w ctx feeds).loadSurroundings g
    switchTo := fun g a =>
      if enc (dec ctx feeds g) = g ∧ NoNil a then
        (settle (E w) (cfgC ctx feeds) none
          (GenSwitch.switchTo (E w) (cfgC ctx feeds) (toS wd ht g) (argS a))).map ofS
      else (env w ctx feeds).switchTo g a
    subcommand := fun g name arg =>
      if enc (dec ctx feeds g) = g then
        (settledSub (E w) (cfgC ctx feeds) (toS wd ht g) name arg).map (fun r => (ofS r.1, r.2))
      else (env w ctx feeds).subcommand g name arg }

attribute [local instance] Classical.propDecidable in
theorem env2_eq (w : World) (wd ht : Int) (ctx : Nat) (feeds : List (Str × List Str)) (hc : ctx + 1 < 2 ^ 64) :
    env2 w wd ht ctx feeds = env w ctx feeds := by
  -- where the guard holds, the state is the encoding of a model state `s` with this context and these feeds,
  -- and `cfgC s.context s.feeds` is `cfgOf s` by definition
  have guard : ∀ g, enc (dec ctx feeds g) = g → ∃ s : Ui.State, s.context = ctx ∧ s.feeds = feeds ∧ enc s = g :=
    fun g hg => ⟨_, rfl, rfl, hg⟩
  unfold env2 env
  dsimp only
  congr 1 <;> funext g
  · funext name arg
    refine ite_eq_right_iff.mpr fun hg => ?_
    obtain ⟨s, rfl, rfl, rfl⟩ := guard g hg
    exact (env_subcommand w wd ht s name arg hc).symm
  · refine ite_eq_right_iff.mpr fun hg => ?_
    obtain ⟨s, rfl, rfl, rfl⟩ := guard g hg
    exact (env_loadSurroundings w wd ht s (by omega)).symm
  · funext a
    refine ite_eq_right_iff.mpr fun hg => ?_
    obtain ⟨s, rfl, rfl, rfl⟩ := guard g hg.1
    exact (env_switchTo w wd ht s a hc hg.2).symm

/-- **The translated `Update` with translated actions is the model's `update`.**  This is
    `Gen07.update_eq` read through `env2_eq`, and says nothing about the code beyond
    `env_loadSurroundings`, `env_switchTo` and `env_subcommand`: it puts those three where `Update` uses
    them.  At an encoded state (`env2_guard`) `env2` answers with the code translated from ui/ui.go
    for `loadSurroundings`, `switchTo` and `subcommand`; anywhere else it is `Gen07.env` by definition.
    The remaining action parameters (`openInternally`, `openExternally` — translated in
    `Generated/GoHook.lean` —, the methods of package pub — `GoSelect`, `GoLink` —) stay the model's. -/
theorem update_eq_translated (w : World) (wd ht : Int) (s : Ui.State) (k : Nat)
    (hsel : s.mode = .selection → s.buffer ≠ [] ∧ ∀ ch ∈ s.buffer, ch.isDigit = true)
    (hc : s.context + 1 < 2 ^ 64) :
    GenUpdate.Update (env2 w wd ht s.context s.feeds) (enc s) k = (Ui.update w s k).map enc := by
  rw [env2_eq w wd ht s.context s.feeds hc]
  exact update_eq w s k hsel

theorem env2_guard (s : Ui.State) : enc (dec s.context s.feeds (enc s)) = enc s := by rw [dec_enc]

end Gen07s
