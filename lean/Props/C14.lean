import Model
import Props.Clean
import Props.Cells
import Proofs.C14

/-
  C14 — styling applies to exactly the intended characters and never leaks.
  The terminal is the state machine `Cells.term`; `Cells.Clean`/`Canon` text is the invariant.
-/

namespace C14
open Str Ansi Cells

/-- Expressions of the styling layer. -/
inductive SE where
  | text (s : Str)
  | cat (a b : SE)
  | bold (a : SE) | italic (a : SE) | underline (a : SE) | strike (a : SE)
  | color (a : SE) | red (a : SE) | code (a : SE) | highlight (a : SE)

/-- What the Go code computes. -/
def eval (c : Colors) : SE → Str
  | .text s => s
  | .cat a b => eval c a ++ eval c b
  | .bold a => Style.bold (eval c a)
  | .italic a => Style.italic (eval c a)
  | .underline a => Style.underline (eval c a)
  | .strike a => Style.strikethrough (eval c a)
  | .color a => Style.color c (eval c a)
  | .red a => Style.red c (eval c a)
  | .code a => Style.code c (eval c a)
  | .highlight a => Style.highlight c (eval c a)

/-- What ought to be displayed: every character with the SGR parameters of exactly the style
    functions wrapped around it (outermost first); newlines carry none. -/
def expected (c : Colors) : SE → List Cell
  | .text s => plain s
  | .cat a b => expected c a ++ expected c b
  | .bold a => (expected c a).map (addAttr ['1'])
  | .italic a => (expected c a).map (addAttr ['3'])
  | .underline a => (expected c a).map (addAttr ['4'])
  | .strike a => (expected c a).map (addAttr ['9'])
  | .color a => (expected c a).map (addAttr ("38;2;".toList ++ c.primary))
  | .red a => (expected c a).map (addAttr ("38;2;".toList ++ c.error))
  | .code a => (expected c a).map (addAttr ("48;2;".toList ++ c.code))
  | .highlight a => (expected c a).map (addAttr ("48;2;".toList ++ c.highlight))

/-- All text leaves are ESC-free (they come out of `Scrub`). -/
def escFree : SE → Prop
  | .text s => ESC ∉ s
  | .cat a b => escFree a ∧ escFree b
  | .bold a | .italic a | .underline a | .strike a | .color a | .red a | .code a | .highlight a => escFree a

/-- Style nesting: however the style functions are nested and concatenated, the result is
    the rendering of the expected cells, all well-formed. -/
theorem style_nesting (c : Colors) (hc : ColorsOk c) (e : SE) (he : escFree e) :
    eval c e = render (expected c e) ∧ ∀ x ∈ expected c e, x.ok = true := by
  induction e with
  | text s => exact ⟨(render_plain s).symm, plain_ok s he⟩
  | cat a b iha ihb =>
    obtain ⟨ha, oka⟩ := iha he.1
    obtain ⟨hb, okb⟩ := ihb he.2
    exact ⟨by rw [eval, ha, hb, expected, render_append],
      fun x hx => (List.mem_append.1 hx).elim (oka x) (okb x)⟩
  | bold a ih => exact C14P.apply_step _ _ _ (by decide) (ih he)
  | italic a ih => exact C14P.apply_step _ _ _ (by decide) (ih he)
  | underline a ih => exact C14P.apply_step _ _ _ (by decide) (ih he)
  | strike a ih => exact C14P.apply_step _ _ _ (by decide) (ih he)
  | color a ih => exact C14P.apply_step _ _ _ hc.1 (ih he)
  | red a ih => exact C14P.apply_step _ _ _ hc.2.1 (ih he)
  | code a ih => exact C14P.apply_step _ _ _ hc.2.2.2 (ih he)
  | highlight a ih => exact C14P.apply_step _ _ _ hc.2.2.1 (ih he)

/-- What the terminal displays for a style expression: each character with exactly the
    expected attributes, and no attribute active at the end. -/
theorem style_displayed (c : Colors) (hc : ColorsOk c) (e : SE) (he : escFree e) :
    term (eval c e) = ((expected c e).map fun x => (x.ch, x.attrs), []) := by
  obtain ⟨h1, h2⟩ := style_nesting c hc e he
  rw [h1]
  exact CellsProps.term_render _ h2

/-- A character's attributes are exactly those of the enclosing style functions: e.g. bold
    around italic around text gives bold, italic on every non-newline character. -/
example : expected ⟨[], [], [], []⟩ (.bold (.cat (.italic (.text ['a', '\n'])) (.text ['b']))) =
    [⟨[['1'], ['3']], 'a'⟩, ⟨[], '\n'⟩, ⟨[['1']], 'b'⟩] := by
  decide

/-- No attribute is active across a line break or at the end of clean text. -/
theorem neutral_at_breaks (s : Str) (h : Clean s) : neutralAtBreaks s = true :=
  CleanProps.clean_neutral s h

/-- So clean text can be cut at line boundaries (`Snip`, `CenterVertically`, `ReplaceLastLine`,
    previews): every line of clean text is clean. -/
theorem cut_at_lines (s : Str) (h : Clean s) : ∀ l ∈ splitNL s, Clean l ∧ neutralAtBreaks l = true := by
  intro l hl
  have hcl := CleanProps.clean_splitNL s h l hl
  exact ⟨hcl, CleanProps.clean_neutral l hcl⟩

/-- Joining clean lines leaks nothing either. -/
theorem join_lines (ls : List Str) (h : ∀ l ∈ ls, Clean l) : neutralAtBreaks (joinNL ls) = true :=
  CleanProps.clean_neutral _ (CleanProps.clean_joinNL ls h)

/-- Layout after styling keeps clean text clean (hence neutral), for every width. -/
theorem layout_keeps_neutral (s : Str) (w : Int) (h : Clean s) :
    neutralAtBreaks (wrap s w) = true ∧ neutralAtBreaks (dumbWrap s w) = true ∧
    neutralAtBreaks (pad s w) = true ∧ neutralAtBreaks (indent s [' ', ' '] true) = true := by
  refine ⟨CleanProps.clean_neutral _ (CleanProps.clean_wrap s w h),
    CleanProps.clean_neutral _ (CleanProps.clean_dumbWrap s w h),
    CleanProps.clean_neutral _ (CleanProps.clean_pad s w h),
    CleanProps.clean_neutral _ (CleanProps.clean_indent s [' ', ' '] true h (by decide))⟩

/-- The HTML / Markdown and plain-text renderers never leak styling, for every document and
    width (gemtext likewise, by `CleanProps.gemtext_clean` and `clean_neutral`). -/
theorem renderers_neutral (c : Colors) (hc : ColorsOk c) (nodes : List Dom.Node)
    (ht : Hypertext.tagsCleanList nodes = true) (src : Str) (w : Int) :
    neutralAtBreaks (Markup.htmlR c nodes w) = true ∧
    neutralAtBreaks (Markup.plainR c (Ansi.scrub src) w) = true :=
  ⟨CleanProps.clean_neutral _ (CleanProps.html_clean c hc nodes ht w),
    CleanProps.clean_neutral _ (CleanProps.plaintext_clean c hc _ (CleanProps.scrub_noCtl src) w)⟩

end C14
