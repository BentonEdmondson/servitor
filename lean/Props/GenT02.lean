import Model
import Generated.GoClient
import Props.C02
import Props.Gen02

/-
  C02 stated directly about `client.FetchUnknown` as translated from the Go source
  (`Generated/GoClient.lean`): the theorems of `Props/C02.lean` carried across the equality of
  `Props/Gen02.lean`.  The world supplies what the code takes from outside (`Gen02.libs`,
  `Gen02.ext`: `url.Parse`, `FetchURL`, `ResolveReference`, the field `Host`); the model appears
  only in the vocabulary of the specification (`Served`, `Pre`, `getId`).
-/

namespace GenT02
open Pub Gen02

/-- What the Go function returns, read back as the model's verdict. -/
theorem result_inv {w : World} {input : JVal} {source : Option U} {o : O} {oid : Option U}
    {err : Option Obj.Err}
    (h : GenClient.FetchUnknown (libs w) (ext w) input source = .ok (o, oid, err)) :
    (err = none ∧ fetchUnknown w input source = .ok (o, oid)) ∨
    (err = some .wrong ∧ o = [] ∧ oid = none ∧ fetchUnknown w input source = .error ()) := by
  rw [fetchUnknown_eq] at h
  generalize fetchUnknown w input source = r at h ⊢
  rcases r with _ | ⟨o', oid'⟩ <;> cases h
  · exact .inr ⟨rfl, rfl, rfl, rfl⟩
  · exact .inl ⟨rfl, rfl⟩

/-- The translated `FetchUnknown` never dereferences a nil pointer: not `source.Host` after a
    fetch, not `id.Host`, not the reference handed to `ResolveReference` or `FetchURL`. -/
theorem never_panics (w : World) (input : JVal) (source : Option U) :
    ∃ r, GenClient.FetchUnknown (libs w) (ext w) input source = .ok r :=
  ⟨_, fetchUnknown_eq w input source⟩

/-- An error it returns never satisfies `errors.Is(err, object.ErrKeyNotPresent)`, and comes with a
    nil object and a nil id; an id is returned only together with a nil error. -/
theorem error_shape (w : World) (input : JVal) (source : Option U) (o : O) (oid : Option U) (e : Obj.Err)
    (h : GenClient.FetchUnknown (libs w) (ext w) input source = .ok (o, oid, some e)) :
    e = .wrong ∧ o = [] ∧ oid = none := by
  rcases result_inv h with ⟨he, _⟩ | ⟨he, ho, hi, _⟩
  · cases he
  · cases he
    exact ⟨rfl, ho, hi⟩

/-- Whatever `FetchUnknown` returns with an id was served by the host its id names. -/
theorem fetchUnknown_provenance (w : World) (input : JVal) (source : Option U) (o : O) (id : U)
    (err : Option Obj.Err) (hpre : C02.Pre w input source)
    (h : GenClient.FetchUnknown (libs w) (ext w) input source = .ok (o, some id, err)) :
    err = none ∧ C02.Served w id.host o := by
  rcases result_inv h with ⟨he, hm⟩ | ⟨_, _, hi, _⟩
  · exact ⟨he, C02.fetchUnknown_provenance w input source o id hpre hm⟩
  · cases hi

/-- An embedded object whose id names another host than the document it came in is never used
    as is — what is returned was fetched from the URL in its id, or the call fails. -/
theorem foreign_embedded_refetched (w : World) (kvs : O) (s id : U) (o : O) (oid : Option U)
    (hid : getId w kvs = .ok (some id)) (hne : s.host ≠ id.host)
    (h : GenClient.FetchUnknown (libs w) (ext w) (.obj kvs) (some s) = .ok (o, oid, none)) :
    ∃ src', w.fetch id.str = some (o, src') := by
  rcases result_inv h with ⟨_, hm⟩ | ⟨he, _⟩
  · exact C02.foreign_embedded_refetched w kvs s id o oid hid hne hm
  · cases he

/-- An object accepted with an id was re-fetched from the URL in the id of the first object and
    came from the host its own id names, or was kept embedded with the source's host being the
    id's, or was fetched by reference from the id's host; a re-fetched document that names an id
    on another host than the one that served it is rejected. -/
theorem forged_rejected (w : World) (input : JVal) (source : Option U) (o : O) (id : U)
    (err : Option Obj.Err)
    (h : GenClient.FetchUnknown (libs w) (ext w) input source = .ok (o, some id, err)) :
    (∃ o0 id0 src, (input = .obj o0 ∨ ∃ ref u src0, input = .str ref ∧ w.parse ref = some u ∧
          w.fetch (w.target source u).str = some (o0, src0)) ∧
        getId w o0 = .ok (some id0) ∧ w.fetch id0.str = some (o, src) ∧
        src.host = id.host ∧ getId w o = .ok (some id)) ∨
    (∃ s, source = some s ∧ s.host = id.host ∧ input = .obj o) ∨
    (∃ ref src, input = .str ref ∧ src.host = id.host ∧ ∃ u, w.parse ref = some u ∧
        w.fetch (w.target source u).str = some (o, src)) := by
  rcases result_inv h with ⟨_, hm⟩ | ⟨_, _, hi, _⟩
  · exact C02.forged_rejected w input source o id hm
  · cases hi

/-! ### Non-vacuity: a concrete world with two hosts

  URLs are two characters, the first names the host.  Host `b` serves at `b1` a document that
  claims the id `a1` (forged: it names host `a`), and at `b2` a document with its own id. -/

def demoWorld : World where
  parse := fun s => match s with
    | [h, _] => some ⟨s, [h]⟩
    | _ => none
  fetch := fun u =>
    if u = ['b', '1'] then
      some ([(['i', 'd'], .str ['a', '1']), (['x'], .null), (['y'], .null)], ⟨['b', '1'], ['b']⟩)
    else if u = ['b', '2'] then
      some ([(['i', 'd'], .str ['b', '2']), (['x'], .null), (['y'], .null)], ⟨['b', '2'], ['b']⟩)
    else none

/-- An object embedded in a document from host `a` that names `b1` as its id is re-fetched from
    `b1`; what comes back claims an id on host `a` although host `b` served it: rejected. -/
example : GenClient.FetchUnknown (libs demoWorld) (ext demoWorld)
    (.obj [(['i', 'd'], .str ['b', '1']), (['x'], .null), (['y'], .null)]) (some ⟨['a', '0'], ['a']⟩)
    = .ok ([], none, some .wrong) := by
  rfl

/-- The same embedded object naming `b2` is re-fetched and accepted with the id host `b` vouches
    for. -/
example : GenClient.FetchUnknown (libs demoWorld) (ext demoWorld)
    (.obj [(['i', 'd'], .str ['b', '2']), (['x'], .null), (['y'], .null)]) (some ⟨['a', '0'], ['a']⟩)
    = .ok ([(['i', 'd'], .str ['b', '2']), (['x'], .null), (['y'], .null)], some ⟨['b', '2'], ['b']⟩, none) := by
  rfl

/-- An embedded object of the same host with more than two keys is kept as it stands. -/
example : GenClient.FetchUnknown (libs demoWorld) (ext demoWorld)
    (.obj [(['i', 'd'], .str ['a', '7']), (['x'], .null), (['y'], .null)]) (some ⟨['a', '0'], ['a']⟩)
    = .ok ([(['i', 'd'], .str ['a', '7']), (['x'], .null), (['y'], .null)], some ⟨['a', '7'], ['a']⟩, none) := by
  rfl

end GenT02
