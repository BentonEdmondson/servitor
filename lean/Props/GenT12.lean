import Generated.GoLink
import Generated.GoSelect
import Props.Gen12
import Props.C12

/-
  Property theorems stated directly about the link-numbering code of pub/post.go, pub/actor.go and
  pub/activity.go as translated from the source on every run (`Generated/GoSelect.lean`): the
  number `supplement` prints next to an attachment is the number for which `SelectLink` returns
  that attachment's selection; every attachment gets a number, also one whose label cannot be
  worked out; numbers outside 1..N select nothing; an activity answers as what it wraps.  They are
  carried across the equalities of `Props/Gen12.lean`; the hand-written selection and presentation
  models appear in no statement below (`Style.linkBlock`, `Ansi.wrap`, `Present.problem`, `joinNL`
  are what the translation calls for `style.LinkBlock` (via the translated style.go and
  `Gen14.linkBlock_eq`), `ansi.Wrap`, `style.Problem` and the `"\n"` between the lines).
-/

namespace GenT12
open Obj Str

/-- The text `supplement` shows for an attachment at width `w`: its `Alt()`, or the error as a
    problem, wrapped. -/
def label (c : Colors) (E : Err → Str) (w : Int) (a : GenLink.Link) : Str :=
  match GenLink.Alt a with
  | .ok t => Ansi.wrap t (w - 2)
  | .error e => Ansi.wrap (Present.problem c (E e)) (w - 2)

/-- The number handed to `style.LinkBlock` for attachment `i` (0-based): `len(p.bodyLinks)+i+1`. -/
def number (p : GenSelect.Post) (i : Nat) : Nat := p.bodyLinks.length + i + 1

theorem lines_eq (c : Colors) (E : Err → Str) (w : Int) (base : Nat) (as : List GenLink.Link) : ∀ i0 : Nat,
    Present.supplementLines c w base (as.map (Gen12.linkV E)) i0 =
      (as.zipIdx i0).map fun q => Style.linkBlock c (label c E w q.1) (base + q.2 + 1) := by
  induction as with
  | nil => intro i0; rfl
  | cons a as ih =>
    intro i0
    simp only [List.map_cons, Present.supplementLines, List.zipIdx_cons, ih, Gen12.altText_eq, label]
    cases GenLink.Alt a <;> rfl

/-- What `supplement` prints for loaded attachments: one `style.LinkBlock` per attachment, in
    order, EVERY attachment included (also one whose `Alt()` is an error: its line shows the
    problem), attachment `i` under the number `len(bodyLinks)+i+1`; it never panics. -/
theorem supplement_lines (c : Colors) (E : Err → Str) (p : GenSelect.Post) (w : Int) (a : GenLink.Link)
    (as : List GenLink.Link) (h : p.attachments = .ok (a :: as)) :
    p.supplement c E w =
      .ok (some (joinNL (((a :: as).zipIdx 0).map fun q => Style.linkBlock c (label c E w q.1) (number p q.2)))) := by
  rw [Gen12.supplement_cons c E p w a as h, lines_eq]
  rfl

/-- Typing the number `supplement` prints next to an attachment selects exactly that attachment:
    `SelectLink(len(bodyLinks)+i+1)` is attachment `i`'s own `Select()`. -/
theorem printed_number_selects (p : GenSelect.Post) (as : List GenLink.Link) (h : p.attachments = .ok as)
    (i : Nat) (a : GenLink.Link) (ha : as[i]? = some a) :
    p.SelectLink (number p i : Nat) = .ok (GenLink.Select a) := by
  have hat : Gen12.attsOf p = as := by rw [Gen12.attsOf, h]; rfl
  have hn : number p i = Select.attachmentNumber p.bodyLinks i := rfl
  rw [Gen12.post_selectLink_choice, hat, hn, C12.attachment_number_selects _ _ i a ha]
  rfl

/-- The line of an attachment whose `Alt()` is an error is the `LinkBlock` of the wrapped problem text
    under the attachment's own number `len(bodyLinks)+i+1` (by the definitions of `label` and
    `number`).  A loop that `continue`d past such an attachment would show it without a number. -/
theorem erroring_label_numbered (c : Colors) (E : Err → Str) (p : GenSelect.Post) (w : Int) (a : GenLink.Link) (e : Err)
    (he : GenLink.Alt a = .error e) (i : Nat) :
    Style.linkBlock c (label c E w a) (number p i) =
      Style.linkBlock c (Ansi.wrap (Present.problem c (E e)) (w - 2)) (p.bodyLinks.length + i + 1) := by
  unfold label number; rw [he]

/-- The list of lines in `supplement_lines` is as long as the list of attachments (a fact about
    `List.map` and `List.zipIdx`; that each attachment has a line is `supplement_lines` itself). -/
theorem every_attachment_numbered (c : Colors) (E : Err → Str) (p : GenSelect.Post) (w : Int) (as : List GenLink.Link) :
    ((as.zipIdx 0).map fun q => Style.linkBlock c (label c E w q.1) (number p q.2)).length = as.length := by
  simp

/-- Body link `i` (printed as `i+1` by the renderers) is selected by `i+1`, with the unknown
    media type. -/
theorem body_number_selects (p : GenSelect.Post) (i : Nat) (l : Str) (h : p.bodyLinks[i]? = some l) :
    p.SelectLink ((i : Int) + 1) = .ok (some (l, Mime.unknown)) := by
  rw [Gen12.post_selectLink_choice, C12.body_number_selects _ _ i l h]; rfl

/-- Numbers below 1 and above `len(bodyLinks)+len(attachments)` select nothing (and do not
    panic). -/
theorem select_out_of_range (p : GenSelect.Post) (n : Int)
    (h : n < 1 ∨ n > p.bodyLinks.length + (Go.pairVal p.attachments).length) : p.SelectLink n = .ok none := by
  have hs := C12.select_out_of_range p.bodyLinks (Gen12.attsOf p) n h
  rw [Gen12.post_selectLink_choice, hs]; rfl

/-- An actor's `SelectLink`: bio link `n` with the unknown media type, nothing outside 1..N, no
    panic. -/
theorem actor_select_exact (a : GenSelect.Actor) (n : Int) :
    a.SelectLink n = .ok (if n < 1 then none
      else match a.bioLinks[(n - 1).toNat]? with
        | some l => some (l, Mime.unknown)
        | none => none) := by
  rw [Gen12.actor_selectLink_choice, Select.actor]
  by_cases h0 : n - 1 < 0
  · simp only [h0, show n < 1 by omega, if_true]
  · simp only [h0, show ¬ n < 1 by omega, if_false]
    cases a.bioLinks[(n - 1).toNat]? <;> rfl

/-- An activity hands the number on unchanged: it answers as the post (actor, failure) it
    wraps. -/
theorem activity_selects_as_target (t : GenSelect.Tangible) (n : Int) :
    GenSelect.Activity.SelectLink (.mk t) n = GenSelect.Tangible.SelectLink t n := by
  rw [GenSelect.Activity.SelectLink]

theorem activity_of_post (p : GenSelect.Post) (n : Int) :
    GenSelect.Activity.SelectLink (.mk (.post p)) n = p.SelectLink n := by
  rw [GenSelect.Activity.SelectLink, GenSelect.Tangible.SelectLink]

theorem activity_of_actor (a : GenSelect.Actor) (n : Int) :
    GenSelect.Activity.SelectLink (.mk (.actor a)) n = a.SelectLink n := by
  rw [GenSelect.Activity.SelectLink, GenSelect.Tangible.SelectLink]

theorem activity_of_failure (f : GenSelect.Failure) (n : Int) :
    GenSelect.Activity.SelectLink (.mk (.failure f)) n = .ok none := by
  rw [GenSelect.Activity.SelectLink, GenSelect.Tangible.SelectLink]; rfl

/-- Non-vacuity: a post with two body links and two attachments, the second of which has a name of
    the wrong type (its label is an error) — it is printed under 4 and 4 opens it; 5 and 0 open
    nothing; wrapped in an activity the answers are the same. -/
example :
    let a1 : GenLink.Link := ⟨"Link".toList, .error .absent, .ok "https://h/a".toList, .ok "first".toList, .error .absent, .error .absent⟩
    let a2 : GenLink.Link := ⟨"Image".toList, .error .absent, .ok "https://h/b".toList, .error .wrong, .error .absent, .error .absent⟩
    let p : GenSelect.Post := ⟨"Note".toList, ["x".toList, "y".toList], .error .absent, .ok [a1, a2]⟩
    GenLink.Alt a2 = .error .wrong ∧ number p 0 = 3 ∧ number p 1 = 4 ∧
    p.SelectLink 3 = .ok (some ("https://h/a".toList, Mime.unknown)) ∧
    p.SelectLink 4 = .ok (some ("https://h/b".toList, Mime.unknownSubtype "image".toList)) ∧
    p.SelectLink 5 = .ok none ∧ p.SelectLink 0 = .ok none ∧
    GenSelect.Activity.SelectLink (.mk (.post p)) 4 = p.SelectLink 4 ∧
    (∀ (c : Colors) (E : Err → Str) (w : Int), p.supplement c E w = .ok (some (joinNL
      [Style.linkBlock c (Ansi.wrap "first".toList (w - 2)) 3,
       Style.linkBlock c (Ansi.wrap (Present.problem c (E .wrong)) (w - 2)) 4]))) := by
  intro a1 a2 p
  refine ⟨rfl, rfl, rfl, ?_, ?_, ?_, ?_, ?_, ?_⟩
  · exact printed_number_selects p [a1, a2] rfl 0 a1 rfl
  · exact printed_number_selects p [a1, a2] rfl 1 a2 rfl
  · exact select_out_of_range p 5 (Or.inr (by decide))
  · exact select_out_of_range p 0 (Or.inl (by decide))
  · exact activity_of_post p 4
  · intro c E w
    rw [supplement_lines c E p w a1 [a2] rfl]
    rfl

end GenT12
