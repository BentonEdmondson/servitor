import Model.Style
import Generated.GoStyle
import Proofs.Gen14

/-
  The tie by translation for C14 (and C01, C12 through the labels): every function of
  style/style.go except `Problem` (an `error` argument) and `superscript` (a closure over
  `strings.Map`; here it is the model's `Style.superscript`, and Props/Gen14s.lean ties its own
  translation to that) is translated from the source on every run (`Generated/GoStyle.lean`,
  namespace `GenStyle`, the processed colours of the configuration as the parameter `c`); the
  theorems below say the generated code computes what the hand-written model (`Model/Style.lean`)
  computes.
-/

namespace Gen14
open Style

theorem background_eq (c : Colors) (t rgb : Str) : GenStyle.background c t rgb = .ok (background t rgb) := by
  rfl

theorem foreground_eq (c : Colors) (t rgb : Str) : GenStyle.foreground c t rgb = .ok (foreground t rgb) := by
  rfl

theorem bold_eq (c : Colors) (t : Str) : GenStyle.Bold c t = .ok (bold t) := by
  rfl

theorem strikethrough_eq (c : Colors) (t : Str) : GenStyle.Strikethrough c t = .ok (strikethrough t) := by
  rfl

theorem underline_eq (c : Colors) (t : Str) : GenStyle.Underline c t = .ok (underline t) := by
  rfl

theorem italic_eq (c : Colors) (t : Str) : GenStyle.Italic c t = .ok (italic t) := by
  rfl

theorem code_eq (c : Colors) (t : Str) : GenStyle.Code c t = .ok (code c t) := by
  simp only [GenStyle.Code, background_eq]
  rfl

theorem highlight_eq (c : Colors) (t : Str) : GenStyle.Highlight c t = .ok (highlight c t) := by
  simp only [GenStyle.Highlight, background_eq]
  rfl

theorem color_eq (c : Colors) (t : Str) : GenStyle.Color c t = .ok (color c t) := by
  simp only [GenStyle.Color, foreground_eq]
  rfl

theorem red_eq (c : Colors) (t : Str) : GenStyle.Red c t = .ok (red c t) := by
  simp only [GenStyle.Red, foreground_eq]
  rfl

theorem link_eq (c : Colors) (t : Str) (n : Nat) : GenStyle.Link c t (n : Int) = .ok (link c t n) := by
  simp only [GenStyle.Link, underline_eq, color_eq, superscriptInt_nat, bind_ok]
  rfl

theorem codeBlock_eq (c : Colors) (t : Str) : GenStyle.CodeBlock c t = .ok (codeBlock c t) := by
  simp only [GenStyle.CodeBlock, code_eq]
  rfl

theorem quoteBlock_eq (c : Colors) (t : Str) : GenStyle.QuoteBlock c t = .ok (quoteBlock c t) := by
  simp only [GenStyle.QuoteBlock, color_eq, str_bar]
  rfl

theorem linkBlock_eq (c : Colors) (t : Str) (n : Nat) : GenStyle.LinkBlock c t (n : Int) = .ok (linkBlock c t n) := by
  simp only [GenStyle.LinkBlock, link_eq, str_two_sp, str_tri, bind_ok]
  rfl

theorem header_eq (c : Colors) (t : Str) (level : Nat) (hl : level < 2 ^ 62) :
    GenStyle.Header c t level = .ok (header c t level) := by
  have h1 : level + 1 < 2 ^ 63 := by rw [Gen16.two62] at hl; rw [Gen16.two63]; omega
  have h0 : level < 2 ^ 63 := by omega
  simp only [GenStyle.Header, Gen16.str_sp, str_diamond, Gen16.repeat_toInt ' ' (level + 1) h1,
    Gen16.repeat_toInt '⯁' level h0, bold_eq, color_eq, bind_ok, Style.header, List.append_assoc,
    List.cons_append, List.nil_append]

theorem bullet_eq (c : Colors) (t : Str) : GenStyle.Bullet c t = .ok (bullet t) := by
  rfl

end Gen14
