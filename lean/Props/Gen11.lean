import Model.Splicer
import Generated.GoSplicer
import Proofs.Gen11

/-
  The tie by translation for C11: `splicer/splicer.go` — the element type of `Splicer`, `clone`,
  `replenish`, `microharvest`, `Harvest` — is translated from the source on every run
  (`extract/go2lean7.go` → `Generated/GoSplicer.lean`, namespace `GenSplicer`); the theorems below say
  the translated code computes what the hand-written model (`Model/Splicer.lean`) computes, so the
  C11 theorems hold of the code as translated (`Props/GenT11.lean`).

  Interface values are `Option`s in the translation, so the three nil tests of the Go code
  (`mostRecent == nil`, `candidateElement == nil`, `harvested == nil`) are translated, not assumed
  away.  The hand-written model has no nil ELEMENTS (`elements : List T`); the equalities are
  therefore stated for splicers and harvest functions that hold / deliver no nil element:
  `Gen11.lift s` (every element `some`), `Gen11.liftHv hv` (defined in `Proofs/Gen11.lean`).
  That hypothesis is met by every caller on the tree: buffers start empty (`NewSplicer`), are only
  ever extended by what `pub.Container.Harvest` returns, the only containers that become pages are
  `*pub.Collection`s, and `Collection.Harvest` fills every cell it returns with the result of one of
  three constructors (`constructComment`, the outbox closure of `NewActorFromObject`, `NewTangible`)
  or with `NewFailure(…)`, none of which returns an untyped nil.  What the code does if the
  hypothesis is broken is recorded in `nil_head_ends_feed` / `nil_head_blocks_source` below: it does
  not crash, but a nil element is never delivered and never removed, so the elements behind it are
  lost and the feed reports its end early.  Code and model differ there, outside the reachable
  states.

  Integers: `int` is unbounded (`Int`), `uint` is `Nat` with wrapping `+`/`-` (`Go.uadd`, `Go.usub`)
  and `Go.toInt`/`Go.toUint` for the conversions; the theorems assume sizes below 2^62, where none
  of them wraps (a Go slice cannot be longer).  The goroutines of `replenish` are run in index
  order: the translator accepts the fan-out only when each closure touches `s[i]` alone.
-/

namespace Gen11
open Splicer Gen11P

variable {C T : Type}

/-- `clone()` on values is the identity and never panics — for every splicer, nil elements included.
    (Sharing of the element arrays between the clone and the original is outside the value semantics.) -/
theorem clone_eq (s : GenSplicer.Splicer C T) : GenSplicer.clone s = .ok s := by
  unfold GenSplicer.clone
  simp only [Go.make, Go.len]
  have h0 : ¬ ((s.length : Int) < 0) := by omega
  simp only [h0, if_false, Int.toNat_natCast, bind, Except.bind, copy_fresh]
  rw [state_loop s _ id]
  · rw [List.map_id]; rfl
  · intro a x b hs
    simp only [hs, List.map_id, index_mid, modify_mid, copy_self, pure, Except.pure, id]

/-- `replenish(amount)` on ANY splicer (nil elements, any `int` amount): never panics, and every source
    is refilled independently by `gstep` — the sequentialised goroutines are a map. -/
theorem replenish_any (hv : GenSplicer.HarvestFn C T) (amount : Int) (s : GenSplicer.Splicer C T) :
    GenSplicer.replenish hv s amount = .ok (s.map (gstep hv amount)) := by
  unfold GenSplicer.replenish
  dsimp only
  rw [state_loop s _ (gstep hv amount)]
  · rfl
  · intro a x b _
    generalize a.map (gstep hv amount) = a'
    simp only [index_mid, bind, Except.bind, gstep]
    cases hp : x.page with
    | none => simp [pure, Except.pure]
    | some p =>
      by_cases hl : Go.len x.elements < amount
      · simp [hl, Go.deref, modify_mid, index_mid, pure, Except.pure]
      · simp [hl, pure, Except.pure]

/-- `replenish` equals the model's on sources without nil elements, for amounts below 2^64. -/
theorem replenish_eq (hv : Hv C T) (n : Nat) (hn : n < 2 ^ 64) (s : List (Source C T)) :
    GenSplicer.replenish (liftHv hv) (lift s) (n : Int) = .ok (lift (Splicer.replenish hv n s)) := by
  rw [replenish_any, replenish_map]
  simp only [lift, List.map_map]
  exact congrArg _ (List.map_congr_left fun src _ => gstep_lift hv n hn src)

/-- `microharvest` equals the model's (`pick` then `popAt`) on sources without nil elements: same item
    (or nil), same buffers afterwards, no panic (`elements[0]`, `s[mostRecentIndex]`, `[1:]` are in range). -/
theorem microharvest_eq (ts : T → Int) (s : List (Source C T)) :
    GenSplicer.microharvest ts (lift s)
      = .ok ((Splicer.microharvest ts s).1, lift (Splicer.microharvest ts s).2) := by
  unfold GenSplicer.microharvest
  dsimp only
  rw [scan_loop ts s, Splicer.microharvest]
  · cases hp : pick ts s 0 none with
    | none => rfl
    | some ie =>
      obtain ⟨i, e⟩ := ie
      obtain ⟨src, hi, hh⟩ := (C11P.mem_heads s i e).mp (C11P.pick_top ts s i e hp).1
      obtain ⟨a, b, rfl, rfl⟩ := split_at s i src hi
      obtain ⟨l, hl⟩ := List.head?_eq_some_iff.mp hh
      have hlt : ¬ ((l.length : Int) + 1 < 1) := by omega
      dsimp only
      rw [C11P.popAt_eq_modify, modify_mid_list]
      simp [enc, lift_append, lift_cons, ← lift_length a, index_mid, modify_mid, Go.sliceFrom, liftSrc, hl, hlt,
        pure, Except.pure, bind, Except.bind]
  · -- one iteration is one `pstep`: evaluate both on an empty buffer, with no choice yet, and
    -- on either outcome of the comparison
    intro a x b best hs
    subst hs
    rw [lift_append, lift_cons, ← lift_length a, index_mid]
    rcases x with ⟨bp, pg, _ | ⟨e, es⟩⟩
    · rfl
    rcases best with _ | ⟨j, b'⟩
    · rfl
    · change (if decide (ts e > ts b') = true then _ else _) =
        Except.ok (ForInStep.yield (enc (if ts e > ts b' then _ else _)))
      by_cases hgt : ts e > ts b'
      · rw [decide_eq_true hgt, if_pos rfl, if_pos hgt]; rfl
      · rw [decide_eq_false hgt, if_neg nofun, if_neg hgt]; rfl

/-- `Harvest(quantity, startingPoint)` equals `Splicer.harvest`: same items, the same continuation
    (`none` = the untyped nil), the returned position is 0, no panic — for quantity + startingPoint < 2^62
    (then `quantity + startingPoint` does not wrap in `uint` and the three `int(…)` conversions are exact). -/
theorem harvest_eq (hv : Hv C T) (ts : T → Int) (s : List (Source C T)) (q st : Nat)
    (hq : q + st < 2 ^ 62) :
    GenSplicer.Harvest (liftHv hv) ts (lift s) q st
      = .ok ((Splicer.harvest hv ts s q st).1.map some, (Splicer.harvest hv ts s q st).2.map lift, 0) := by
  unfold GenSplicer.Harvest
  simp only [clone_eq, Gen14.bind_ok, uadd_small q st (by omega), Gen16.toInt_of_lt (q + st) (by omega),
    Gen16.toInt_of_lt st (by omega), Gen16.toInt_of_lt q (by omega), replenish_eq hv (q + st) (by omega)]
  rw [skip_loop ts, Gen14.bind_ok, take_loop ts]
  · simp only [countUp_length, Splicer.harvest, List.nil_append]
  · intro i s' out
    rw [microharvest_eq, Gen14.bind_ok]
    rcases Splicer.microharvest ts s' with ⟨_ | e, s''⟩ <;> rfl
  · rintro ⟨_ | r, c, o⟩ <;> rfl
  · intro i s'
    rw [microharvest_eq]; rfl

/-- The continuation is nil exactly when the sources ran dry: fewer than `quantity` items were left
    in the replenished buffers after skipping `startingPoint` of them. -/
theorem harvest_nil_iff (hv : Hv C T) (ts : T → Int) (s : List (Source C T)) (q st : Nat)
    (hq : q + st < 2 ^ 62) :
    (∃ out, GenSplicer.Harvest (liftHv hv) ts (lift s) q st = .ok (out, none, 0)) ↔
      C11P.total (skip ts st (Splicer.replenish hv (q + st) s)) < q := by
  rw [harvest_eq hv ts s q st hq]
  simp only [Except.ok.injEq, Prod.mk.injEq, Option.map_eq_none_iff, and_true, exists_eq_left']
  exact C11P.take_none_iff ..

/-- If the only buffered head is nil, `microharvest` returns nil and removes nothing: `Harvest`
    then reports the end of the feed although `rest` has not been delivered. -/
theorem nil_head_ends_feed (ts : T → Int) (b : Nat) (p : Option C) (rest : List (Option T)) :
    GenSplicer.microharvest ts [⟨b, p, none :: rest⟩] = .ok (none, [⟨b, p, none :: rest⟩]) := by
  rfl

/-- A nil head next to a non-nil head is passed over (whichever comes first) and stays where it
    is: the source behind it is never read again. -/
theorem nil_head_blocks_source (ts : T → Int) (b b' : Nat) (p p' : Option C) (e : T)
    (rest rest' : List (Option T)) :
    GenSplicer.microharvest ts [⟨b, p, none :: rest⟩, ⟨b', p', some e :: rest'⟩]
        = .ok (some e, [⟨b, p, none :: rest⟩, ⟨b', p', rest'⟩]) ∧
    GenSplicer.microharvest ts [⟨b', p', some e :: rest'⟩, ⟨b, p, none :: rest⟩]
        = .ok (some e, [⟨b', p', rest'⟩, ⟨b, p, none :: rest⟩]) := by
  constructor <;> rfl

end Gen11
