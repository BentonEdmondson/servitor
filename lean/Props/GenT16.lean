import Model
import Generated.GoAnsi
import Props.C16
import Props.Gen16

/-
  Property theorems stated directly about the code as translated from the Go source
  (`Generated/GoAnsi.lean`): the C16 theorems carried across the equalities of `Props/Gen16.lean`.
  Nothing here mentions the hand-written model in its conclusion except as the specification.
-/

namespace GenT16

/-- The translated `CenterVertically` returns exactly `h` lines, for every `h ≥ 1`. -/
theorem center_height (p c s : Str) (h : Nat)
    (hp : p.length < 2 ^ 62) (hc : c.length < 2 ^ 62) (hs : s.length < 2 ^ 62) (hh : h < 2 ^ 62)
    (h1 : 1 ≤ h) :
    ∃ out, GenAnsi.CenterVertically p c s h = .ok out ∧ Ansi.height out = h := by
  refine ⟨Ansi.centerVertically p c s h, Gen16.centerVertically_eq p c s h hp hc hs hh, ?_⟩
  exact C16.center_height p c s h h1

/-- The translated `ReplaceLastLine` keeps the height of a text of at least two lines. -/
theorem replace_keeps_height (s r : Str) (h2 : 2 ≤ Ansi.height s) (hr : '\n' ∉ r) :
    ∃ out, GenAnsi.ReplaceLastLine s r = .ok out ∧ Ansi.height out = Ansi.height s := by
  rw [Gen16.replaceLastLine_eq]
  exact C16.replace_keeps_height s r h2 hr

/-- The translated `SetLength` yields one line of exactly `w` characters. -/
theorem setLength_no_newline (f : Str) (w : Int) (e : Char) (hw : 0 ≤ w) (he : e ≠ '\n') :
    ∃ out, GenAnsi.SetLength f w [e] = .ok out ∧ '\n' ∉ out ∧ (out.length : Int) = w := by
  rw [Gen16.setLength_eq]
  exact C16.setLength_no_newline f w e hw he

end GenT16
