import Model
import Proofs.C03

/-
  C03 — documents are accepted only from successful JSON responses via bounded redirects;
  the cache is transparent.
-/

namespace C03
open Jtp

variable {Doc : Type}

/-- A tolerated header block; `lines` are the lines before the first blank line. -/
def HeadersOk (tolerated : List Str) (lines : List Str) : Prop :=
  (∀ l ∈ lines, match parseContentType l with
    | .notCT => True
    | .bad => False
    | .ok m => m.matchesAny tolerated = true) ∧
  (∃ l ∈ lines, ∃ m, parseContentType l = .ok m)

/-- The two `match`es are different auxiliary functions, so this is not closed by `Iff.rfl` at
    once: comparing them as they stand makes Lean evaluate `parseContentType l`, string literal
    and all.  On a constructor both reduce. -/
theorem headersOk_iff (tol : List Str) (lines : List Str) :
    HeadersOk tol lines ↔ LinesOk tol lines ∧ HasCT lines :=
  and_congr_left' (forall₂_congr fun l _ => by cases parseContentType l <;> exact Iff.rfl)

/-- (1a) `validateHeaders` accepts exactly the tolerated, terminated header blocks, and hands on
    exactly the bytes after the blank line. -/
theorem validateHeaders_iff (tolerated : List Str) (s body : Str) :
    validateHeaders tolerated (s.length + 1) s false = some body ↔
      ∃ lines, splitHeaders (s.length + 1) s = some (lines, body) ∧ HeadersOk tolerated lines := by
  simp only [validateHeaders_iff_gen, Bool.false_eq_true, false_or, headersOk_iff]

/-- (1b) An exchange yields a document iff the status line is well-formed with status 200–203
    and the header block is tolerated and terminated; the body is what follows the blank line. -/
theorem exchange_doc_iff (tolerated : List Str) (resp body : Str) :
    exchange tolerated resp = .doc body ↔
      ∃ sl rest status lines, readLine resp = some (sl, rest) ∧ parseStatusLine sl = some status ∧
        status ∈ okStatuses ∧ splitHeaders (rest.length + 1) rest = some (lines, body) ∧
        HeadersOk tolerated lines := by
  simp only [exchange_doc_iff_validateHeaders, validateHeaders_iff, exists_and_left]

/-- A redirect is recognised iff the status starts with `3` and the header block has a Location
    line before its end. -/
theorem exchange_redirect_iff (tolerated : List Str) (resp v : Str) :
    exchange tolerated resp = .redirect v ↔
      ∃ sl rest status, readLine resp = some (sl, rest) ∧ parseStatusLine sl = some status ∧
        status.head? = some '3' ∧ findLocation (rest.length + 1) rest = some v := by
  constructor
  · intro h
    rcases exchange_cases h with h' | ⟨sl, rest, status, hrl, hst, ⟨h3, _, hv, h'⟩ | ⟨_, _, _, h'⟩⟩ <;> cases h'
    exact ⟨sl, rest, status, hrl, hst, h3, hv⟩
  · rintro ⟨sl, rest, status, hrl, hst, h3, hv⟩
    simp [exchange, hrl, hst, h3, hv]

/-- A well-formed status line is `HTTP/1.d SP ddd …\n`; the status is its three digits. -/
theorem statusLine_shape (line status : Str) (h : parseStatusLine line = some status) :
    ∃ d a b c rest, line = "HTTP/1.".toList ++ d :: ' ' :: a :: b :: c :: rest ∧ status = [a, b, c] ∧
      d.isDigit = true ∧ a.isDigit = true ∧ b.isDigit = true ∧ c.isDigit = true ∧
      rest.getLast? = some '\n' := by
  revert h
  fun_cases parseStatusLine line with
  | case1 d a b c rest hc =>
    rintro ⟨⟩
    simp only [Bool.and_eq_true] at hc
    obtain ⟨⟨⟨⟨hd, ha⟩, hb⟩, hc⟩, hbody⟩ := hc
    -- the literal as a character list: `String.toList` on a literal is slow to evaluate
    refine ⟨d, a, b, c, rest, by rewrite [String.toList_ofList]; rfl, rfl, hd, ha, hb, hc, ?_⟩
    revert hbody
    fun_cases bodyOfLine rest <;> simp [*]
  | case2 | case3 => nofun

theorem chain_functional (env : Env Doc) (tol : List Str) (u : Url) (k k' : Nat) (d d' : Doc) (s s' : Url)
    (h : Chain env tol u k d s) (h' : Chain env tol u k' d' s') : k = k' ∧ d = d' ∧ s = s' :=
  Jtp.chain_functional h h'

/-- (2) With any sound cache (in particular the empty one) a fetch with budget `b` succeeds
    exactly when a redirect chain of at most `b` https hops ends in a tolerated document; the
    reported source is the URL of that final response (that the cache stays sound is
    `get_keeps_sound`). -/
theorem get_iff_chain (env : Env Doc) (tol : List Str) (b : Nat) (c : Cache Doc) (u : Url)
    (hs : Sound env tol c) (d : Doc) (src : Url) :
    ((∃ st, st = get env tol b c u ∧ st.res = .ok d src) ↔ ∃ k, k ≤ b ∧ Chain env tol u k d src) := by
  rw [← (get_spec env tol b c u hs).2]
  exact ⟨fun ⟨_, e, h⟩ => e ▸ h, fun h => ⟨_, rfl, h⟩⟩

theorem get_keeps_sound (env : Env Doc) (tol : List Str) (b : Nat) (c : Cache Doc) (u : Url)
    (hs : Sound env tol c) : Sound env tol (get env tol b c u).cache :=
  (Jtp.get_spec env tol b c u hs).1

/-- Any other world yields an error and no document — stated as the contrapositive of (2): if no
    chain within the budget exists (other status, missing/foreign content type, undecodable body,
    redirect without Location, non-https hop, chain too long or cyclic), the result is `err`. -/
theorem get_err_of_no_chain (env : Env Doc) (tol : List Str) (b : Nat) (c : Cache Doc) (u : Url)
    (hs : Sound env tol c) (hno : ¬ ∃ k d src, k ≤ b ∧ Chain env tol u k d src) :
    ∃ st, st = get env tol b c u ∧ (match st.res with | .err => True | .ok _ _ => False) := by
  refine ⟨_, rfl, ?_⟩
  cases hres : (get env tol b c u).res with
  | err => trivial
  | ok d src =>
    obtain ⟨k, hk, h⟩ := ((get_spec env tol b c u hs).2 d src).1 hres
    exact hno ⟨k, d, src, hk, h⟩

/-- One request for the link and at most one per allowed hop, and only to https URLs. -/
theorem get_requests_bounded (env : Env Doc) (tol : List Str) (b : Nat) (c : Cache Doc) (u : Url) :
    (get env tol b c u).requests.length ≤ b + 1 ∧
    ∀ r ∈ (get env tol b c u).requests, env.https r = true := by
  -- the branches that open one connection and stop (`hh` as the `if` of `get` leaves it)
  have one : ∀ {u : Url} {b : Nat}, ¬(!env.https u) = true →
      [u].length ≤ b + 1 ∧ ∀ r ∈ [u], env.https r = true := by
    intro u b hh; simpa using hh
  fun_induction get env tol b c u with
  -- no request: a remembered document, a remembered redirect with no budget left, a link not https
  | case1 | case2 | case4 => simp
  -- a remembered redirect, followed: no request here, one hop of the budget spent
  | case3 cache u t cache' hget b ih => exact ⟨by have := ih.1; omega, ih.2⟩
  -- a miss whose exchange ends the fetch (no answer, error, document, redirect that is not followed)
  | case5 budget cache u cache' hget hh | case6 budget cache u cache' hget hh
  | case7 budget cache u cache' hget hh | case8 budget cache u cache' hget hh
  | case9 budget cache u cache' hget hh | case10 cache u cache' hget hh => exact one hh
  -- a miss answered by a redirect that is followed: this request, then those of the rest
  | case11 cache u cache' hget hh resp hsv v he t hr b r ih =>
    exact ⟨by simpa using ih.1, List.forall_mem_cons.2 ⟨by simpa using hh, ih.2⟩⟩

/-- Eviction cannot break soundness. -/
theorem sound_sub (env : Env Doc) (tol : List Str) (c c' : Cache Doc) (hs : Sound env tol c)
    (hsub : ∀ e, e ∈ c'.entries → e ∈ c.entries) : Sound env tol c' :=
  fun k e h => hs k e (hsub _ h)

theorem sound_empty (env : Env Doc) (tol : List Str) (cap : Nat) : Sound env tol ({ cap := cap } : Cache Doc) :=
  fun _ _ h => nomatch h

/-- (3) Cache transparency: with unchanged servers, for every cache reachable by any fetches and
    any evictions (= any sound cache, of any capacity), the result equals the cold-cache result. -/
theorem cache_transparent (env : Env Doc) (tol : List Str) (b : Nat) (c c' : Cache Doc) (u : Url)
    (hs : Sound env tol c) (hs' : Sound env tol c') :
    (match (get env tol b c u).res, (get env tol b c' u).res with
     | .ok d s, .ok d' s' => d = d' ∧ s = s'
     | .err, .err => True
     | _, _ => False) := by
  have h1 := (get_spec env tol b c u hs).2
  have h2 := (get_spec env tol b c' u hs').2
  cases hr1 : (get env tol b c u).res with
  | ok d s => rw [(h2 d s).2 ((h1 d s).1 hr1)]; exact ⟨rfl, rfl⟩
  | err =>
    cases hr2 : (get env tol b c' u).res with
    | err => trivial
    | ok d s => rw [(h1 d s).2 ((h2 d s).1 hr2)] at hr1; cases hr1

/-- For one kind of request (one list of tolerated types) distinct links have distinct cache
    keys: what is remembered about one link is never served for another. -/
theorem cacheKey_injective (tol : List Str) (u u' : Url) : cacheKey tol u = cacheKey tol u' → u = u' :=
  Jtp.cacheKey_inj

/-- Requests that tolerate different type lists never share a cache entry: media types contain no
    blank, so the blank in the key ends the joined list, and different joined lists give different
    keys whatever the links are. -/
theorem cacheKey_disjoint (tol tol' : List Str)
    (h : List.intercalate [','] tol ≠ List.intercalate [','] tol')
    (hs : ' ' ∉ List.intercalate [','] tol) (hs' : ' ' ∉ List.intercalate [','] tol')
    (u u' : Url) : cacheKey tol u ≠ cacheKey tol' u' :=
  fun heq => h (append_sep_inj hs hs' heq)

/-- The hypotheses of `cacheKey_disjoint` hold of the two lists servitor really uses (ActivityPub
    objects and WebFinger documents): their keys never coincide. -/
example :
    let ap : List Str := ["application/activity+json", "application/ld+json", "application/json"].map String.toList
    let jrd : List Str := ["application/jrd+json", "application/json"].map String.toList
    List.intercalate [','] ap ≠ List.intercalate [','] jrd ∧
      ' ' ∉ List.intercalate [','] ap ∧ ' ' ∉ List.intercalate [','] jrd := by
  simp only [List.map]
  repeat rewrite [String.toList_ofList]  -- literals as character lists, as in `statusLine_shape`
  decide +kernel

/-- A fetch of one kind never disturbs what the cache holds for another kind: it adds entries
    only under its own keys, and otherwise only reorders and evicts, so a cache that was sound for
    requests tolerating `tol'` is still sound for them after a fetch tolerating `tol`. -/
theorem get_keeps_sound_for_others (env : Env Doc) (tol tol' : List Str)
    (hdis : ∀ u u', cacheKey tol u ≠ cacheKey tol' u') (b : Nat) (c : Cache Doc) (u : Url)
    (hs : Sound env tol' c) : Sound env tol' (get env tol b c u).cache := by
  intro k e he u' hk
  rcases get_cache_mem env tol b c u _ he with hmem | ⟨x, hx⟩
  · exact hs k e hmem u' hk
  · exact absurd (hx.symm.trans hk) (hdis x u')

/-- (3') Transparency across kinds of request: whatever a fetch tolerating `tol` did to the shared
    cache in between, a later fetch tolerating `tol'` (with keys disjoint from those of `tol`)
    returns a document exactly when a chain of at most `b'` hops exists for `tol'` — exactly what
    the cold fetch returns, by (2).  In particular an entry filed by the first kind is never served
    to the second. -/
theorem cross_kind_transparent (env : Env Doc) (tol tol' : List Str)
    (hdis : ∀ u u', cacheKey tol u ≠ cacheKey tol' u') (b b' : Nat) (c : Cache Doc) (u u' : Url)
    (hs : Sound env tol' c) (d : Doc) (s : Url) :
    ((∃ st, st = get env tol' b' (get env tol b c u).cache u' ∧ st.res = .ok d s) ↔
      ∃ k, k ≤ b' ∧ Chain env tol' u' k d s) :=
  get_iff_chain env tol' b' _ u' (get_keeps_sound_for_others env tol tol' hdis b c u hs) d s

end C03
