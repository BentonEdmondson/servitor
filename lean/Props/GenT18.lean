import Model
import Generated.GoHistory
import Generated.GoFeed
import Props.C18
import Props.Gen18

/-
  Property theorems stated directly about the code as translated from the Go source
  (`Generated/GoHistory.lean`, `Generated/GoFeed.lean`): the C18 theorems carried across the
  equalities of `Props/Gen18.lean`.  Nothing here mentions the hand-written model in its conclusion
  except as the specification.
-/

namespace GenT18

def stepH {α : Type} (g : GenHistory.History α) : History.Op α → Except Panic (GenHistory.History α)
  | .add x => GenHistory.Add g x
  | .back => GenHistory.Back g
  | .forward => GenHistory.Forward g

def runH {α : Type} (g : GenHistory.History α) : List (History.Op α) → Except Panic (GenHistory.History α)
  | [] => .ok g
  | o :: os => match stepH g o with
    | .ok g' => runH g' os
    | .error e => .error e

theorem stepH_toGenH {α : Type} (h : History.H α) (o : History.Op α) :
    stepH (Gen18.toGenH h) o = (History.step h o).map Gen18.toGenH := by
  cases o with
  | add x => exact Gen18.add_eq h x
  | back => exact Gen18.back_eq h
  | forward => exact Gen18.forward_eq h

theorem runH_toGenH {α : Type} (h : History.H α) (ops : List (History.Op α)) :
    runH (Gen18.toGenH h) ops = (History.run h ops).map Gen18.toGenH := by
  induction ops generalizing h with
  | nil => rfl
  | cons o os ih =>
    simp only [runH, History.run, stepH_toGenH]
    cases History.step h o with
    | error e => rfl
    | ok h' => exact ih h'

/-- Every operation sequence on the translated history, from the zero value: never panics, and the
    state reached denotes what the zipper computes. -/
theorem history_refines {α : Type} (ops : List (History.Op α)) :
    ∃ h : History.H α, runH (Gen18.toGenH {}) ops = .ok (Gen18.toGenH h) ∧ History.Inv h ∧
      History.abs h = History.Zipper.run History.Zipper.empty ops := by
  obtain ⟨h, hr, hi, ha⟩ := C18.history_refines ops
  refine ⟨h, ?_, hi, ha⟩
  rw [runH_toGenH, hr]
  rfl

/-- `Current` on the translated history is defined as soon as one page has been added. -/
theorem current_defined {α : Type} (ops : List (History.Op α)) (g : GenHistory.History α)
    (hr : runH (Gen18.toGenH {}) ops = .ok g) (hadd : ∃ x, History.Op.add x ∈ ops) :
    ∃ x, GenHistory.Current g = .ok x := by
  obtain ⟨h, hrun, _⟩ := C18.history_refines ops
  rw [runH_toGenH, hrun] at hr
  cases hr
  obtain ⟨x, hx⟩ := C18.current_defined ops h hrun hadd
  exact ⟨x, by rw [Gen18.current_eq, hx]⟩

def stepF {α : Type} (g : GenFeed.Feed α) : Feed.Op α → Except Panic (GenFeed.Feed α)
  | .append xs => GenFeed.Append g (xs.map some)
  | .prepend xs => GenFeed.Prepend g (xs.map some)
  | .up => GenFeed.MoveUp g
  | .down => GenFeed.MoveDown g
  | .center => GenFeed.MoveToCenter g

/-- Each translated feed operation is the model's (hence every C18 feed theorem applies to it). -/
theorem stepF_eq {α : Type} (f : Feed.F α) (o : Feed.Op α) :
    stepF (Gen18.toGenF f) o = .ok (Gen18.toGenF (Feed.step f o)) := by
  cases o with
  | append xs => exact Gen18.append_eq f xs
  | prepend xs => exact Gen18.prepend_eq f xs
  | up => exact Gen18.moveUp_eq f
  | down => exact Gen18.moveDown_eq f
  | center => exact Gen18.moveToCenter_eq f

end GenT18
