import Model
import Model.GoUrl
import Generated.GoWebfinger
import Generated.GoJtpfront
import Generated.Facts
import Props.Gen04
import Props.Gen17

/-
  The tie by translation for the WebFinger lookup (C04): `client.ResolveWebfinger` and
  `client.FetchURL` are translated from the source on every run by `extract/go2lean23.go` into
  `Generated/GoWebfinger.lean`.  `ResolveWebfinger` is cut at its one call of `jtp.Get`:
  `ResolveWebfinger_request` (the handle's split, the URL, the arguments of the call),
  `ResolveWebfinger_answer` (how the answer is read), `ResolveWebfinger` (the composition, with
  `jtp.Get` the parameter `X.jtpGet`).  The theorems hold for EVERY handle, library `U` and world
  `X`/`W`; `written_eq` composes the request part with `Gen04.written_eq`, and the request it
  names is the one `Driver/Fetch.lean` (`webfingerOp`) compares the real code's bytes with.
-/

namespace Gen04w
open GenWebfinger Go.Url
open Go.Net (URL)

variable {Time Url Src : Type}

theorem cutChar_none (s : Str) (c : Char) (h : c ∉ s) : Go.Strings.cutChar s c = none := by
  induction s with
  | nil => rfl
  | cons x xs ih =>
    simp only [List.mem_cons, not_or] at h
    unfold Go.Strings.cutChar
    rw [if_neg (fun e => h.1 e.symm), ih h.2]

theorem cutChar_some (a b : Str) (c : Char) (h : c ∉ a) :
    Go.Strings.cutChar (a ++ c :: b) c = some (a, b) := by
  induction a with
  | nil => simp [Go.Strings.cutChar]
  | cons x xs ih =>
    simp only [List.mem_cons, not_or] at h
    rw [List.cons_append]
    unfold Go.Strings.cutChar
    rw [if_neg (fun e => h.1 e.symm), ih h.2]

def resource (user domain : Str) : Str := ((Go.str "acct:" ++ user) ++ Go.str "@") ++ domain

def query (user domain : Str) : Str := Go.str "resource=" ++ queryEscape (resource user domain)

/-- The URL of the lookup: the fresh value `&url.URL{Scheme, Host, Path, RawQuery}`. -/
def wfFields (user domain : Str) : URL :=
  { Scheme := Go.str "https", Host := domain, Path := Go.str "/.well-known/webfinger", RawQuery := query user domain }

def wfLink (U : Lib) (user domain : Str) : URL := fresh U (wfFields user domain)

def wfAccept : Str := Go.str "application/jrd+json"

def wfTolerated : List Str := [Go.str "application/jrd+json", Go.str "application/json"]

theorem valuesEncode_one (k v : Str) : valuesEncode [(k, [v])] = queryEscape k ++ '=' :: queryEscape v := by
  simp [valuesEncode, sortKeys, insertKey, List.intercalate]

/-- `url.Values{"resource": {"acct:" + account + "@" + domain}}.Encode()` -/
theorem encode_eq (user domain : Str) :
    valuesEncode [(Go.str "resource", [((Go.str "acct:" ++ user) ++ Go.str "@") ++ domain])] = query user domain := by
  rw [valuesEncode_one]
  unfold query resource Go.str
  -- literals as character lists: `String.toList` on a literal is slow to evaluate
  repeat rewrite [String.toList_ofList]
  rfl

/-- (the handle has no `@`) the lookup is refused, with this text, before anything is asked. -/
theorem request_no_at (U : Lib) (username : Str) (h : '@' ∉ username) :
    ResolveWebfinger_request U username =
      .error (.new (Go.str "webfinger address must have a separating @ symbol")) := by
  have : Go.Strings.splitNChar username '@' 2 = [username] := by
    simp [Go.Strings.splitNChar, cutChar_none username '@' h]
  unfold ResolveWebfinger_request
  simp only [this]
  rw [if_pos (by simp [Go.len])]

/-- (the handle is `user@domain`, `user` without `@`) `jtp.Get` is asked for `wfLink`, with the
    JRD accept string, JRD or plain JSON tolerated, and the budget of 20 redirects. -/
theorem request_eq (U : Lib) (user domain : Str) (h : '@' ∉ user) :
    ResolveWebfinger_request U (user ++ '@' :: domain) =
      .ok { link := wfLink U user domain, accept := wfAccept, tolerated := wfTolerated, maxRedirects := 20 } := by
  have : Go.Strings.splitNChar (user ++ '@' :: domain) '@' 2 = [user, domain] := by
    simp [Go.Strings.splitNChar, cutChar_some user domain '@' h]
  have h0 : Go.index [user, domain] 0 = .ok user := rfl
  have h1 : Go.index [user, domain] 1 = .ok domain := rfl
  unfold ResolveWebfinger_request
  simp only [this]
  rw [if_neg (by simp [Go.len])]
  simp only [h0, h1, encode_eq]
  rfl

/-- Every handle is one of the two: refused, or asked about at the domain after its first `@`. -/
theorem request_cases (U : Lib) (username : Str) :
    ('@' ∉ username ∧ ResolveWebfinger_request U username =
        .error (.new (Go.str "webfinger address must have a separating @ symbol"))) ∨
    ∃ user domain, username = user ++ '@' :: domain ∧ '@' ∉ user ∧
      ResolveWebfinger_request U username =
        .ok { link := wfLink U user domain, accept := wfAccept, tolerated := wfTolerated, maxRedirects := 20 } := by
  by_cases h : '@' ∈ username
  · obtain ⟨a, b, e, ha⟩ := List.eq_append_cons_of_mem h
    exact .inr ⟨a, b, e, ha, by rw [e]; exact request_eq U a b ha⟩
  · exact .inl ⟨h, request_no_at U username h⟩

/-- The index expressions `split[0]`, `split[1]` are in range whenever they are reached. -/
theorem request_never_panics (U : Lib) (username : Str) (p : Panic) :
    ResolveWebfinger_request U username ≠ .error (.panic p) := by
  rcases request_cases U username with ⟨_, e⟩ | ⟨_, _, _, _, e⟩ <;> rw [e] <;> simp

/-- The budget is the constant the fact extractor reads (`Facts03.maxRedirects_is_20`). -/
theorem budget_is_the_extracted_one : MAX_REDIRECTS = Generated.maxRedirects := by decide

theorem requestURI_plain (U : Lib) (f : URL) (ho : f.Opaque = []) (hr : f.RawPath = [])
    (hp : f.Path.all pathPlain = true) (hne : f.Path ≠ []) (hq : f.RawQuery ≠ []) :
    requestURI U f = f.Path ++ '?' :: f.RawQuery := by
  have he : escapedPath U f = f.Path := by
    unfold escapedPath
    rw [if_pos ⟨hr, hp⟩]
  unfold requestURI
  simp only [he]
  rw [if_pos ho, if_neg hne, if_pos hq]

/-- `RequestURI()` of the link is its path, `?`, its query.  (What else `jtp.Get` reads of it —
    scheme, host, and `Hostname()`, `Port()` as `splitHostPort` of the host — is what `wfFields`
    and `fresh` put there, by definition.) -/
theorem wfLink_requestURI (U : Lib) (user domain : Str) :
    (wfLink U user domain).RequestURI = Go.str "/.well-known/webfinger?" ++ query user domain := by
  unfold wfLink fresh
  dsimp only
  rw [requestURI_plain U _ rfl rfl ?_ ?_ ?_]
  all_goals unfold wfFields query Go.str; repeat rewrite [String.toList_ofList]
  · rfl
  · rfl
  · exact List.cons_ne_nil _ _
  · exact List.cons_ne_nil _ _

/-- A domain without a colon and without brackets is its own host name and names no port (so
    the dial goes to `domain:443`, `Gen04.dial_target`). -/
theorem plain_domain (domain : Str) (h : ':' ∉ domain) (hb : domain.head? ≠ some '[') :
    splitHostPort domain = (domain, []) := by
  unfold splitHostPort splitLastColon
  rw [cutChar_none _ ':' (by simpa using h)]
  simp [hb]

variable {Doc Conn : Type}

/-- Whatever the translated `jtp.Get` writes on a connection for the link of a lookup is the one
    request the differential check expects: `GET /.well-known/webfinger?<query>`, `Host:` the
    handle's domain, `Accept:` the JRD type. -/
theorem written_eq (U : Lib) (W : GenJtpFront.Ext Doc Conn) (timeout : Int) (user domain : Str) (n : Nat)
    (c : Conn) (bytes : Str)
    (h : GenJtpFront.Act.write c bytes ∈
      Gen04.actsOf (GenJtpFront.Get_front W timeout (wfLink U user domain) wfAccept wfTolerated n)) :
    bytes = Jtp.request (Go.str "/.well-known/webfinger?" ++ query user domain) domain wfAccept := by
  rw [Gen04.written_eq W timeout (wfLink U user domain) wfAccept wfTolerated n c bytes h, wfLink_requestURI]
  rfl

/-- The model does not name the error; the translated code does. -/
def forget {α : Type} : Except Err α → Except Unit α
  | .ok a => .ok a
  | .error _ => .error ()

/-- The translated loop is the model's recursion: it stops with the `href` of the first link
    whose `rel` is `self` and whose type is an ActivityPub one; an entry that is not an object, a
    missing or non-string `rel`, an unparsable type and a missing `href` on the chosen link end
    the search with an error; other entries are passed over. -/
theorem loop_eq (L : Obj.Libs Time Url) (links : List JVal) :
    (match ResolveWebfinger_loop1 L links false [] with
      | .error _ => Except.error ()
      | .ok (found, l) => if found then .ok l else .error ()) = Pub.webfingerLinks links := by
  induction links with
  | nil => rfl
  | cons el rest ih =>
    unfold ResolveWebfinger_loop1 Pub.webfingerLinks
    cases el with
    | obj o =>
      unfold Go.str
      generalize "rel".toList = kRel
      generalize "type".toList = kType
      generalize "href".toList = kHref
      generalize "self".toList = kSelf
      generalize ["application/activity+json".toList, "application/ld+json".toList] = kTypes
      generalize "unrecognized type %T found in webfinger response".toList = kText
      simp only [Go.assert_map, Gen17.getString_eq, Gen17.getMediaType_eq]
      cases hr : Obj.getString o kRel with
      | error e => rfl
      | ok rel =>
        simp only []
        by_cases hs : rel = kSelf
        · subst hs
          simp only [ne_eq, not_true_eq_false, decide_false, Bool.false_eq_true, if_false]
          cases hm : Obj.getMediaType o kType with
          | error e =>
            cases e with
            | absent => exact ih
            | wrong => rfl
          | ok mt =>
            simp only []
            cases hmm : mt.matchesAny kTypes with
            | false => exact ih
            | true =>
              simp only [Bool.not_true, Bool.false_eq_true, if_false]
              cases hh : Obj.getString o kHref <;> rfl
        · simp only [ne_eq, hs, not_false_eq_true, decide_true, if_true]
          exact ih
    | _ => rfl

/-- What `ResolveWebfinger` makes of a document `jtp.Get` returned is what `Pub.webfingerLink`
    makes of it. -/
theorem answer_eq (L : Obj.Libs Time Url) (json : List (Str × JVal)) (src : Src) :
    forget (ResolveWebfinger_answer L (.ok (json, src))) = Pub.webfingerLink json := by
  unfold ResolveWebfinger_answer Pub.webfingerLink
  unfold Go.str
  generalize "links".toList = kLinks
  generalize "actor not found in webfinger listing".toList = kText
  simp only [Gen17.getList_eq]
  cases hl : Obj.getList json kLinks with
  | error e => rfl
  | ok links =>
    simp only []
    rw [← loop_eq L links]
    cases ResolveWebfinger_loop1 L links false [] with
    | error e => rfl
    | ok r =>
      obtain ⟨found, l⟩ := r
      cases found <;> rfl

/-- An error of `jtp.Get` is handed on. -/
theorem answer_get_failed (L : Obj.Libs Time Url) (e : Unit) :
    ResolveWebfinger_answer (Src := Src) L (.error e) = .error .get := rfl

/-- The loop gives its errors no text of its own: they are those of the accessors, or the format
    of the type complaint. -/
theorem loop_error_ne_new (L : Obj.Libs Time Url) (ls : List JVal) (f : Bool) (u t : Str) :
    ResolveWebfinger_loop1 L ls f u ≠ .error (.new t) := by
  induction ls with
  | nil => simp [ResolveWebfinger_loop1]
  | cons el rest ih =>
    unfold ResolveWebfinger_loop1
    rcases Go.assert_map el with ⟨o, _ | _⟩ <;> dsimp only
    · simp
    · rw [if_pos rfl]
      -- the tests in the order of the source: `rel` missing; another `rel`; `type` absent or
      -- malformed; another type; `href` missing or there.  Each ends with `.obj`, `.ok` or goes on
      split
      · simp
      · split
        · exact ih
        · split
          · split
            · exact ih
            · simp
          · split
            · exact ih
            · split <;> simp

/-- The only texts `ResolveWebfinger` gives its own errors. -/
theorem answer_error_texts (L : Obj.Libs Time Url) (got : Except Unit (List (Str × JVal) × Src)) (t : Str)
    (h : ResolveWebfinger_answer L got = .error (.new t)) :
    t = Go.str "actor not found in webfinger listing" := by
  unfold ResolveWebfinger_answer at h
  split at h
  · cases h
  · dsimp only at h
    split at h
    · cases h
    · split at h
      · rename_i e he
        rw [Except.error.inj h] at he
        exact absurd he (loop_error_ne_new L _ _ _ t)
      · split at h
        · exact (Err.new.inj (Except.error.inj h)).symm
        · cases h

/-- The whole lookup, for a handle `user@domain`: one call of `jtp.Get`, for `wfLink`, and the
    model's reading of what comes back. -/
theorem resolve_eq (L : Obj.Libs Time Url) (U : Lib) (X : Ext Src) (user domain : Str) (h : '@' ∉ user) :
    forget (ResolveWebfinger L U X (user ++ '@' :: domain)) =
      match X.jtpGet (wfLink U user domain) wfAccept wfTolerated 20 with
      | .error _ => .error ()
      | .ok (json, _) => Pub.webfingerLink json := by
  unfold ResolveWebfinger
  rw [request_eq U user domain h]
  simp only []
  cases hg : X.jtpGet (wfLink U user domain) wfAccept wfTolerated 20 with
  | error e => rfl
  | ok r => obtain ⟨json, src⟩ := r; exact answer_eq L json src

/-- A handle without `@` asks nothing: the result does not depend on the world. -/
theorem resolve_no_at (L : Obj.Libs Time Url) (U : Lib) (X : Ext Src) (username : Str) (h : '@' ∉ username) :
    ResolveWebfinger L U X username =
      .error (.new (Go.str "webfinger address must have a separating @ symbol")) := by
  unfold ResolveWebfinger
  rw [request_no_at U username h]

def fetchAccept : Str :=
  Go.str "application/activity+json,application/ld+json; profile=\"https://www.w3.org/ns/activitystreams\""

def fetchTolerated : List Str :=
  [Go.str "application/activity+json", Go.str "application/ld+json", Go.str "application/json"]

/-- `FetchURL` asks `jtp.Get` for the caller's URL itself, with the ActivityPub accept string, the
    three tolerated types and the budget of 20, and returns what it returns. -/
theorem fetchURL_eq (X : Ext Src) (uri : URL) :
    FetchURL X uri = X.jtpGet uri fetchAccept fetchTolerated 20 := by
  unfold FetchURL FetchURL_request fetchAccept fetchTolerated Go.str
  repeat rewrite [String.toList_ofList]
  rfl

/-- The call goes through the singleflight group and the key is forgotten afterwards (the LRU
    cache of `jtp.Get` holds the result by then). -/
theorem fetchURL_is_shared : FetchURL_shared = true ∧ FetchURL_forgets = true := ⟨rfl, rfl⟩

/-- Callers share a flight when `uri.String()` agrees — exactly when the cache of `jtp.Get` would
    file their answers under the same key (`Gen04.key_eq`): sharing hands a caller nothing it
    would not have found in the cache a moment later. -/
theorem shared_flight_same_entry (u u' : URL) :
    FetchURL_key u = FetchURL_key u' ↔
      Jtp.cacheKey (FetchURL_request u).tolerated u.String = Jtp.cacheKey (FetchURL_request u').tolerated u'.String := by
  unfold FetchURL_key FetchURL_request Jtp.cacheKey
  dsimp only
  rw [List.append_right_inj, List.cons_inj_right]

end Gen04w
