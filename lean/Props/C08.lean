import Model
import Generated.Facts
import Proofs.C08

/-
  C08 — UI state is race-free and deadlock-free under concurrent keys, resizes and loads.

  Two kinds of statement, which no theorem connects.  The general ones are about the concurrency
  model (Model/Conc.lean): a `Disciplined` program has no race, no double emit and no deadlock, for
  every number of threads and every interleaving.  The others are evaluations on the lock/access
  skeleton of ui/ui.go and on the goroutine fan-outs of pub and splicer, regenerated from the source
  on every run (Generated/Facts.lean): `scan` checks the lock discipline on every entry point, flow-
  insensitively.  `Disciplined` itself is proved of three hand-written templates (the two loaders
  and a key handler, `ui_templates_disciplined`); that the loaders' templates follow their
  skeletons is read off `loaders_touch_their_own_page`, which pins the two event lists, and for
  the key handler there is no such statement.
-/

namespace C08
open Conc

theorem discipline_drf (pol : Policy) (prog : List Template) (h : Disciplined pol prog)
    (s : Sys) (hr : Reachable prog s) : ¬ Race s :=
  (good_of_reachable h hr).no_race

/-- Frames are emitted one at a time. -/
theorem emit_exclusive (pol : Policy) (prog : List Template) (h : Disciplined pol prog)
    (s : Sys) (hr : Reachable prog s) : ¬ DoubleEmit s :=
  (good_of_reachable h hr).no_double_emit

/-- A disciplined program cannot deadlock: while some thread is unfinished, some thread can
    step (there is a single lock, it is never taken twice by one thread, and nothing blocks while
    it is held). -/
theorem single_lock_progress (pol : Policy) (prog : List Template) (h : Disciplined pol prog)
    (s : Sys) (hr : Reachable prog s) : ¬ Deadlock s :=
  (good_of_reachable h hr).no_deadlock

/-- Every execution of a disciplined program is finite: each step strictly decreases the number
    of actions left, so every started thread finishes after at most that many steps of the system. -/
theorem steps_decrease (pol : Policy) (prog : List Template) (h : Disciplined pol prog)
    (s s' : Sys) (i : Nat) (hr : Reachable prog s) (hs : step s i = some s') :
    (s'.threads.map fun t => t.rest.length).sum < (s.threads.map fun t => t.rest.length).sum :=
  (good_of_reachable h hr).steps_decrease hs

/-- The events of the extracted skeleton that are structure markers (control-flow braces and
    `return`), not lock operations, accesses or calls. -/
def isMarker (e : String) : Bool :=
  e = "if{" || e = "}else{" || e = "}" || e = "loop{" || e = "switch{" || e = "case{" || e = "return"

/-- Nesting depth before each event (for "lock operations occur only at depth 0"). -/
def depths : List String → Nat → List (String × Nat)
  | [], _ => []
  | e :: es, d =>
    if e = "if{" || e = "loop{" || e = "switch{" || e = "case{" then (e, d) :: depths es (d + 1)
    else if e = "}" then (e, d - 1) :: depths es (d - 1)
    else if e = "}else{" then (e, d - 1) :: depths es d
    else (e, d) :: depths es d

def lookupSk (name : String) : List String :=
  match Generated.uiSkeleton.find? (fun p => p.1 = name) with
  | some p => p.2
  | none => []

/-- Entry points: the exported methods and every goroutine literal. -/
def entryPoints : List String :=
  (Generated.uiSkeleton.map (·.1)).filter fun n =>
    n = "Update" || n = "SetWidthHeight" || n = "Subcommand" || (n.splitOn ".go").length = 2

/-- Private methods: called only with the mutex held. -/
def privateMethods : List String :=
  (Generated.uiSkeleton.map (·.1)).filter fun n => !(entryPoints.contains n)

/-- The page fields guarded by a loading flag, and the goroutine that owns them while the flag
    is set: `frontier` by `loadingUp` (first loader), `children`/`basepoint` by `loadingDown`. -/
def guardedReads (thread : String) : List String :=
  if thread = "loadSurroundings.go1" then ["rd page.frontier"]
  else if thread = "loadSurroundings.go2" then ["rd page.children", "rd page.basepoint"]
  else []

/-- Scan of one entry point: every access / frame / call of a private method happens with the
    mutex held (or is a guarded read by the owning loader); lock and unlock alternate, at nesting
    depth 0; the thread does not end holding the mutex unless it is `Subcommand`'s deliberate
    hold-on-error or a `defer`red unlock is in place. -/
def scan (thread : String) : List (String × Nat) → Bool → Bool → Bool
  | [], held, deferred => !held || deferred || thread = "Subcommand"
  | (e, d) :: es, held, deferred =>
    if e = "lock" then !held && d = 0 && scan thread es true deferred
    else if e = "unlock" then held && d = 0 && scan thread es false deferred
    else if e = "defer-unlock" then held && d = 0 && scan thread es held true
    else if isMarker e || e.startsWith "go " then scan thread es held deferred
    else if (guardedReads thread).contains e then scan thread es held deferred
    else held && scan thread es held deferred       -- rd / wr / emit / call of a private method

/-- `entry_points_disciplined` and `private_methods_lock_free` in one evaluation: both need
    `entryPoints`, and splitting every method name at ".go" is the expensive part of either. -/
theorem entry_points_and_private_methods :
    entryPoints.all (fun n => scan n (depths (lookupSk n) 0) false false) = true ∧
    privateMethods.all (fun n => (lookupSk n).all fun e => e != "lock" && e != "unlock" && e != "defer-unlock") = true := by
  -- `String.splitOn` is defined by well-founded recursion; `splitOn_eq` puts it in a form the kernel runs
  simp only [privateMethods, entryPoints, C08aux.splitOn_eq]
  decide +kernel

theorem entry_points_disciplined :
    entryPoints.all (fun n => scan n (depths (lookupSk n) 0) false false) = true :=
  entry_points_and_private_methods.1

/-- Private methods never touch the mutex themselves (so no thread locks twice); every goroutine
    they start is an entry point, checked by `entry_points_disciplined`. -/
theorem private_methods_lock_free :
    privateMethods.all (fun n => (lookupSk n).all fun e => e != "lock" && e != "unlock" && e != "defer-unlock") = true :=
  entry_points_and_private_methods.2

/-- The ownership protocol of the loading flags: the guarded fields are written only by their
    owning loader; the flag is tested and set by `loadSurroundings` (under the caller's mutex)
    right before the loader is started; and it is written nowhere else but by that loader (which
    resets it under the mutex: its event list in `loaders_touch_their_own_page`). -/
theorem ownership_protocol :
    (Generated.uiSkeleton.all fun p =>
      (p.1 = "loadSurroundings.go1" || !(p.2.contains "wr page.frontier")) &&
      (p.1 = "loadSurroundings.go2" || (!(p.2.contains "wr page.children") && !(p.2.contains "wr page.basepoint")))) = true ∧
    (lookupSk "loadSurroundings") =
      ["rd s.h", "rd page.loadingUp", "rd page.feed", "rd page.frontier", "if{", "wr page.loadingUp", "go loadSurroundings.go1", "}",
       "rd page.loadingDown", "rd page.feed", "rd page.children", "if{", "wr page.loadingDown", "go loadSurroundings.go2", "}"] ∧
    (Generated.uiSkeleton.all fun p =>
      (p.1 = "loadSurroundings" || p.1 = "loadSurroundings.go1" || !(p.2.contains "wr page.loadingUp")) &&
      (p.1 = "loadSurroundings" || p.1 = "loadSurroundings.go2" || !(p.2.contains "wr page.loadingDown"))) = true := by
  decide +kernel

/-- The loaders only ever touch the page they were started for (the local `page`), never
    "whatever page is current now": the flag they reset and the fields they replace belong to the
    page whose flag was set on their behalf. -/
theorem loaders_touch_their_own_page :
    ((lookupSk "loadSurroundings.go1" ++ lookupSk "loadSurroundings.go2").all fun e =>
      e != "rd s.h" && e != "wr s.h" &&
      !(["cur.feed", "cur.frontier", "cur.children", "cur.basepoint", "cur.loadingUp", "cur.loadingDown"].any
          fun f => e = "rd " ++ f || e = "wr " ++ f)) = true ∧
    lookupSk "loadSurroundings.go1" =
      ["rd page.frontier", "lock", "wr page.feed", "wr page.frontier", "wr page.loadingUp", "call view", "emit s.view()", "unlock"] ∧
    lookupSk "loadSurroundings.go2" =
      ["rd page.children", "rd page.basepoint", "lock", "wr page.feed", "wr page.children", "wr page.basepoint",
       "wr page.loadingDown", "call view", "emit s.view()", "unlock"] := by
  decide +kernel

/-- The token that guards a page field: the loading flag whose holder may read the field without
    the mutex, and which a writer must hold besides the mutex.  Every other variable is guarded by
    the mutex alone. -/
def pol : Policy := fun v =>
  match v.page, v.name with
  | some p, "frontier" => some ⟨p, "loadingUp"⟩
  | some p, "children" => some ⟨p, "loadingDown"⟩
  | some p, "basepoint" => some ⟨p, "loadingDown"⟩
  | _, _ => none

def upLoader (p : Nat) : Template :=
  [.lock, .acquire ⟨p, "loadingUp"⟩, .unlock,
   .read ⟨some p, "frontier"⟩,
   .lock, .write ⟨some p, "feed"⟩, .write ⟨some p, "frontier"⟩, .release ⟨p, "loadingUp"⟩, .emit, .unlock]

def downLoader (p : Nat) : Template :=
  [.lock, .acquire ⟨p, "loadingDown"⟩, .unlock,
   .read ⟨some p, "children"⟩, .read ⟨some p, "basepoint"⟩,
   .lock, .write ⟨some p, "feed"⟩, .write ⟨some p, "children"⟩, .write ⟨some p, "basepoint"⟩,
   .release ⟨p, "loadingDown"⟩, .emit, .unlock]

def keyHandler (p : Nat) : Template :=
  [.lock, .read ⟨none, "mode"⟩, .write ⟨none, "buffer"⟩, .write ⟨none, "mode"⟩, .read ⟨none, "h"⟩,
   .write ⟨some p, "feed"⟩, .read ⟨some p, "frontier"⟩, .read ⟨some p, "children"⟩, .emit, .unlock]

/-- The two loaders, as templates of the concurrency model (the test-and-set done on their behalf
    by `loadSurroundings` under the mutex is their `acquire`), and a key handler, satisfy
    `Disciplined`; so the general theorems apply to any number of them. -/
theorem ui_templates_disciplined (pages : List Nat) :
    Disciplined pol (pages.map upLoader ++ pages.map downLoader ++ pages.map keyHandler) := by
  intro tpl htpl
  simp only [List.mem_append, List.mem_map] at htpl
  rcases htpl with (⟨p, _, rfl⟩ | ⟨p, _, rfl⟩) | ⟨p, _, rfl⟩
  · simp [disciplinedFrom, upLoader, pol]
  · simp [disciplinedFrom, downLoader, pol]
  · simp [disciplinedFrom, keyHandler, pol]

/-- Fan-outs in pub and splicer: every function that starts goroutines waits for them;
    different goroutine literals of one function assign to different variables; a literal started
    once per loop iteration only assigns through the per-iteration index. -/
def fanoutOk (f : String × List String × Bool) : Bool :=
  let ws := f.2.1.map fun w => ((w.splitOn ":").headD "", ((w.splitOn ":").drop 1).headD "")
  f.2.2 &&
  (ws.all fun a => ws.all fun b => a.1 = b.1 || a.2 != b.2) &&
  (ws.all fun a => !(a.1.endsWith "*") || (a.2.splitOn "[i]").length ≥ 2)

theorem fanouts_disjoint : Generated.fanouts.all fanoutOk = true := by
  -- `fanoutOk` applied to an argument, so that `simp only` can unfold it
  show Generated.fanouts.all (fun f => fanoutOk f) = true
  simp only [fanoutOk, C08aux.splitOn_eq]
  decide +kernel

/-- Frames come from nowhere else than `view()`. -/
theorem frames_only_from_view : Generated.outputArguments.all (· = "s.view()") = true := by
  decide +kernel

end C08
