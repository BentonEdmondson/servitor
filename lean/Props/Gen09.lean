import Model
import Generated.GoListing
import Props.Gen17
import Proofs.C02

/-
  The tie by translation for C09: the listing filters of package pub — the outbox closure of
  `NewActorFromObject`, `constructComment` of `NewPostFromObject`, the forged-creators loop,
  `getActors`, `getPostOrActor`, `New`, `NewTangible`, the three identifier accessors and the
  `type` test at the head of the four constructors — are translated from the source on every
  run (`Generated/GoListing.lean`, namespace `GenListing`, front end extract/go2lean14.go).  The
  theorems below say the generated code computes what the hand-written model (`Model/Pub.lean`)
  computes, for every world and every entry, and that it never panics (the nil receivers of
  `.String()` / `.Host` are all guarded).

  The constructors of the items and `client.FetchUnknown` are parameters of the translated code;
  they are instantiated with the model's (`Pub.newActivity w`, …).  A translated `Tangible` is
  read as an item of the model by `toItem`, which forgets the message of a failure (the model's
  error item carries none); which message goes with which case is stated separately
  (`outbox_messages`, `reply_messages`).

  `getActors`, `getPostOrActor`, `New`, `NewTangible` and the identifier accessors are translated
  a second time with the constructors themselves (unit newitem, `Props/Gen02n.lean`; the accessors
  in unit navigate, `Props/Gen02p.lean`); the listing closures, the creators loop and the `type`
  tests only this unit has.
-/

namespace Gen09
open Pub GenListing

variable {Time Url : Type}

/-- The item of the model a translated `Tangible` stands for. -/
def toItem : Tangible → Item
  | .activity a => .activity a
  | .actor a => .actor a
  | .failure _ => .failure
  | .post p => .post p

/-- The item of the model a translated result of `New` stands for. -/
def anyToItem : Any → Item
  | .activity a => .activity a
  | .actor a => .actor a
  | .collection c => .collection c
  | .failure _ => .failure
  | .post p => .post p

def aorfItem : AorF → Item
  | .actor a => .actor a
  | .failure => .failure

def targetItem : Target → Item
  | .post p => .post p
  | .actor a => .actor a
  | .failure => .failure

/-- A translated `Tangible` as an author entry: `creator.(*Actor)` succeeds only on an actor. -/
def toAorF : Tangible → AorF
  | .actor a => .actor a
  | _ => .failure

theorem identifier_eq (a : ActorM) : Actor.Identifier a = a.id := rfl

theorem actorIdentifier_eq (a : ActivityM) : Activity.ActorIdentifier a = a.actorId := by
  unfold Activity.ActorIdentifier ActivityM.actorId
  cases a.actor <;> rfl

theorem parentIdentifier_eq (p : PostM) : Post.ParentIdentifier p = p.parentId := by
  unfold Post.ParentIdentifier PostM.parentId
  cases h : p.parent with
  | error e => rfl
  | ok r => cases r; rfl

/-- The outbox closure of `NewActorFromObject` as translated is the model's `outboxItem`: same
    verdict on every entry, in every world, and no panic. -/
theorem outbox_eq (w : World) (owner : Option U) (e : E) :
    (NewActorFromObject_outbox (newActivity w) owner e.1 e.2).map toItem = .ok (outboxItem w owner e) := by
  unfold NewActorFromObject_outbox outboxItem
  cases hact : newActivity w e.1 e.2 with
  | error err => rfl
  | ok act =>
    simp only [actorIdentifier_eq]
    cases owner with
    | none => rfl
    | some oid =>
      cases haid : act.actorId with
      | none => rfl
      | some aid =>
        by_cases hs : aid.str = oid.str <;>
          simp [Go.isNilPtr, Go.deref, hs, Except.map, toItem]

/-- `constructComment` of `NewPostFromObject` as translated is the model's `replyItem`. -/
theorem reply_eq (w : World) (parent : Option U) (e : E) :
    (NewPostFromObject_constructComment (newPost w) parent e.1 e.2).map toItem = .ok (replyItem w parent e) := by
  unfold NewPostFromObject_constructComment replyItem
  cases hc : newPost w e.1 e.2 with
  | error err => rfl
  | ok c =>
    simp only [parentIdentifier_eq]
    cases parent with
    | none => rfl
    | some pid =>
      cases hcid : c.parentId with
      | none => rfl
      | some cid =>
        by_cases hs : cid.str = pid.str <;>
          simp [Go.isNilPtr, Go.deref, hs, Except.map, toItem]

/-- Which message the outbox closure shows in which case. -/
theorem outbox_messages (w : World) (owner : Option U) (e : E) (f : Failure)
    (h : NewActorFromObject_outbox (newActivity w) owner e.1 e.2 = .ok (.failure f)) :
    (∃ err, newActivity w e.1 e.2 = .error err ∧ f.message = .ofBuild err) ∨
    (∃ act, newActivity w e.1 e.2 = .ok act ∧ owner = none ∧
      f.message = .new (Go.str "activity was performed by a different actor (this actor has no identifier)")) ∨
    (∃ act oid, newActivity w e.1 e.2 = .ok act ∧ owner = some oid ∧
      (∀ aid, act.actorId = some aid → aid.str ≠ oid.str) ∧
      f.message = .new (Go.str "activity was performed by a different actor")) := by
  unfold NewActorFromObject_outbox at h
  cases hact : newActivity w e.1 e.2 with
  | error err => rw [hact] at h; cases h; exact .inl ⟨err, rfl, rfl⟩
  | ok act =>
    rw [hact] at h
    cases owner with
    | none => cases h; exact .inr (.inl ⟨act, rfl, rfl, rfl⟩)
    | some oid =>
      refine .inr (.inr ⟨act, oid, rfl, rfl, ?_⟩)
      simp only [actorIdentifier_eq] at h
      cases haid : act.actorId with
      | none => rw [haid] at h; cases h; exact ⟨nofun, rfl⟩
      | some aid =>
        rw [haid] at h
        by_cases hs : aid.str = oid.str
        · simp [Go.isNilPtr, Go.deref, hs] at h
        · simp [Go.isNilPtr, Go.deref, hs] at h
          exact ⟨fun _ h' => by cases h'; exact hs, by rw [← h]⟩

/-- Which message `constructComment` shows in which case. -/
theorem reply_messages (w : World) (parent : Option U) (e : E) (f : Failure)
    (h : NewPostFromObject_constructComment (newPost w) parent e.1 e.2 = .ok (.failure f)) :
    (∃ err, newPost w e.1 e.2 = .error err ∧ f.message = .ofBuild err) ∨
    (∃ c, newPost w e.1 e.2 = .ok c ∧ parent = none ∧
      f.message = .new (Go.str "comment does not reference this parent (parent lacks an identifier)")) ∨
    (∃ c pid, newPost w e.1 e.2 = .ok c ∧ parent = some pid ∧
      (∀ cid, c.parentId = some cid → cid.str ≠ pid.str) ∧
      f.message = .new (Go.str "comment does not reference this parent")) := by
  unfold NewPostFromObject_constructComment at h
  cases hc : newPost w e.1 e.2 with
  | error err => rw [hc] at h; cases h; exact .inl ⟨err, rfl, rfl⟩
  | ok c =>
    rw [hc] at h
    cases parent with
    | none => cases h; exact .inr (.inl ⟨c, rfl, rfl, rfl⟩)
    | some pid =>
      refine .inr (.inr ⟨c, pid, rfl, rfl, ?_⟩)
      simp only [parentIdentifier_eq] at h
      cases hcid : c.parentId with
      | none => rw [hcid] at h; cases h; exact ⟨nofun, rfl⟩
      | some cid =>
        rw [hcid] at h
        by_cases hs : cid.str = pid.str
        · simp [Go.isNilPtr, Go.deref, hs] at h
        · simp [Go.isNilPtr, Go.deref, hs] at h
          exact ⟨fun _ h' => by cases h'; exact hs, by rw [← h]⟩

/-- The keys are the model's: the outbox, and `replies` before `comments`. -/
theorem listing_keys :
    NewActorFromObject_outboxKey = "outbox".toList ∧
    NewPostFromObject_replyKeys = ["replies".toList, "comments".toList] ∧
    NewPostFromObject_creatorsKey = "attributedTo".toList := ⟨rfl, rfl, rfl⟩

/-- The loop over `p.creators` as translated: no panic; it runs to its end exactly when every
    author passes the model's `creatorOk`, and otherwise returns the one error. -/
theorem creators_eq (id : Option U) (ts : List Tangible) :
    NewPostFromObject_creators id ts =
      .ok (if (ts.map toAorF).all (creatorOk id) then none
           else some (Go.Error.new (Go.str "post contains forged creators"))) := by
  induction ts with
  | nil => rfl
  | cons t ts ih =>
    unfold NewPostFromObject_creators
    rw [ih, List.map_cons, List.all_cons]
    cases t with
    | actor a =>
      obtain ⟨_, aid, _, _, _, _, _⟩ := a
      simp only [identifier_eq, toAorF, creatorOk]
      cases aid <;> cases id <;>
        simp only [Go.isNilPtr, Go.deref, Option.isNone_none, Option.isNone_some, if_true, Bool.false_eq_true, if_false,
          Bool.true_and, Bool.false_and]
      rename_i ai pi
      by_cases hh : ai.host = pi.host <;> simp [hh]
    | _ => rfl

theorem mapE_map {α β γ ε : Type} (f : β → Except ε γ) (h : α → β) (l : List α) :
    Go.mapE f (l.map h) = Go.mapE (fun x => f (h x)) l := by
  induction l with
  | nil => rfl
  | cons x xs ih => simp only [List.map_cons, Go.mapE, ih]

/-- The goroutine fan-out returns when every cell does, and cell `k` is made from element `k`.
    (The call is a hypothesis so that the cells can be left to unification: `generalize` it first.) -/
theorem fanout_map {α β γ : Type} (l : List α) (cell : Int → Except Panic β) (f : β → γ) (g : α → γ)
    (h : ∀ (k : Nat) (hk : k < l.length), ∃ b, cell k = .ok b ∧ f b = g l[k])
    {r : Except Panic (List β)} (hr : Go.fanout l cell = r) : ∃ bs, r = .ok bs ∧ bs.map f = l.map g := by
  subst hr
  unfold Go.fanout Go.indices
  induction l generalizing cell with
  | nil => exact ⟨[], rfl, rfl⟩
  | cons x xs ih =>
    obtain ⟨b, hb, hfb⟩ := h 0 (Nat.zero_lt_succ _)
    obtain ⟨bs, hbs, hfbs⟩ := ih (fun i => cell (i + 1)) fun k hk => h (k + 1) (Nat.succ_lt_succ hk)
    refine ⟨b :: bs, ?_, by rw [List.map_cons, List.map_cons, hfb, hfbs]; rfl⟩
    rw [List.length_cons, List.range_succ_eq_map, List.map_cons, List.map_map, Go.mapE, hb]
    rw [mapE_map] at hbs ⊢
    simp only [Function.comp] at hbs ⊢
    rw [show (fun x : Nat => cell ↑x.succ) = fun x : Nat => cell ((x : Int) + 1) from rfl, hbs]

theorem index_getElem {α : Type} (l : List α) (k : Nat) (hk : k < l.length) : Go.index l (k : Int) = .ok l[k] := by
  simp [Go.index, List.getElem?_eq_getElem hk]

/-- `getActors` as translated never panics, and whatever reading of a `Tangible` sends an actor
    and an error item where `g` sends the model's: it reads the list as `g` reads the model's. -/
theorem getActors_map {β : Type} (f : Tangible → β) (g : AorF → β) (hf : ∀ a, f (.actor a) = g (.actor a))
    (hg : ∀ m, f (.failure m) = g .failure) (L : Obj.Libs Time Url) (w : World) (o : O) (key : Str)
    (source : Option U) :
    ∃ ts, getActors L (newActor w) o key source = .ok ts ∧ ts.map f = (Pub.getActors w o key source).map g := by
  unfold GenListing.getActors Pub.getActors
  rw [Gen17.getList_eq]
  cases Obj.getList o key with
  | error e => cases e <;> exact ⟨_, rfl, by simp only [List.map, hg]⟩
  | ok l =>
    dsimp only
    generalize hr : Go.fanout l _ = r
    obtain ⟨ts, rfl, hm⟩ := fanout_map l _ f (fun x => g (match newActor w x source with
        | .ok a => .actor a
        | .error _ => .failure)) (fun k hk => by
      rw [index_getElem l k hk]
      dsimp only
      cases newActor w l[k] source
      · exact ⟨_, rfl, hg _⟩
      · exact ⟨_, rfl, hf _⟩) hr
    exact ⟨ts, rfl, by rw [hm, List.map_map]; rfl⟩

/-- `getActors` as translated: no panic, and entry by entry the model's `getActors` (an actor or
    an error item in its place). -/
theorem getActors_eq (L : Obj.Libs Time Url) (w : World) (o : O) (key : Str) (source : Option U) :
    (getActors L (newActor w) o key source).map (List.map toItem) =
      .ok ((Pub.getActors w o key source).map aorfItem) := by
  obtain ⟨ts, h, hm⟩ := getActors_map toItem aorfItem (fun _ => rfl) (fun _ => rfl) L w o key source
  rw [h, ← hm]
  rfl

/-- The part of `getPostOrActor` after the reference is known, which the translation repeats on
    each of its three paths, here with the model's `fetchUnknown` and constructors for the
    parameters: fetch, a post first, an actor only when the object is no post by type. -/
theorem fetchTarget_eq (w : World) (r : JVal) (source : Option U) :
    toItem (match fetchUnknown w r source with
      | .error _ => Tangible.failure ⟨.ofFetch⟩
      | .ok (o, id) =>
        match newPostFromObject w o id with
        | .error postErr =>
          if (Go.Error.ofBuild postErr).is .wrongType then
            match newActorFromObject w o id with
            | .error actorErr =>
              if (Go.Error.ofBuild actorErr).is .wrongType then
                .failure ⟨.errorf2 (Go.str "%w, %w") (.ofBuild postErr) (.ofBuild actorErr)⟩
              else .failure ⟨.ofBuild actorErr⟩
            | .ok a => .actor a
          else .failure ⟨.ofBuild postErr⟩
        | .ok p => .post p) = targetItem (C02aux.fetchTarget w r source) := by
  unfold C02aux.fetchTarget
  cases fetchUnknown w r source with
  | error e => rfl
  | ok r =>
    obtain ⟨o, id⟩ := r
    dsimp only
    cases newPostFromObject w o id with
    | ok p => rfl
    | error pe =>
      cases pe with
      | wrongType => cases newActorFromObject w o id with
        | ok a => rfl
        | error ae => cases ae <;> rfl
      | _ => rfl

/-- `getPostOrActor` as translated is the model's: the inline-`Create` unwrap, the fetch, a post
    first, an actor only when the object is no post by type. -/
theorem getPostOrActor_eq (L : Obj.Libs Time Url) (w : World) (o : O) (key : Str) (source : Option U) :
    toItem (getPostOrActor L (fetchUnknown w) (newPostFromObject w) (newActorFromObject w) o key source) =
      targetItem (Pub.getPostOrActor w o key source) := by
  unfold GenListing.getPostOrActor Pub.getPostOrActor
  rw [Gen17.getAny_eq]
  cases Obj.getAny o key with
  | error e => rfl
  | ok ref0 =>
    cases ref0 with
    | obj kvs =>
      simp only [Go.assert_map, Gen17.getString_eq, Gen17.getAny_eq]
      unfold Go.str
      cases Obj.getString kvs "type".toList with
      | error e => rfl
      | ok kind =>
        by_cases hc : kind = "Create".toList
        · simp only [hc, decide_true, if_true]
          cases Obj.getAny kvs "object".toList with
          | error e => rfl
          | ok v => exact fetchTarget_eq w v source
        · simp only [hc, decide_false, Bool.false_eq_true, if_false]
          exact fetchTarget_eq w _ source
    | str s => exact fetchTarget_eq w _ source
    | _ => rfl  -- neither a reference nor an object: `FetchUnknown` refuses it

/-- `New` as translated is the model's `Pub.new`: the fetch, then actor, post, activity,
    collection in this order, each tried only when the one before refused the `type`. -/
theorem new_eq (w : World) (input : JVal) (source : Option U) :
    anyToItem (New (fetchUnknown w) (newActorFromObject w) (newPostFromObject w)
      (newActivityFromObject w) newCollectionFromObject input source) = Pub.new w input source := by
  unfold GenListing.New Pub.new
  cases fetchUnknown w input source with
  | error e => rfl
  | ok p =>
    obtain ⟨o, id⟩ := p
    dsimp only
    cases newActorFromObject w o id with
    | ok a => rfl
    | error e1 => cases e1 with
      | wrongType => cases newPostFromObject w o id with
        | ok a => rfl
        | error e2 => cases e2 with
          | wrongType => cases newActivityFromObject w o id with
            | ok a => rfl
            | error e3 => cases e3 with
              | wrongType => cases newCollectionFromObject o id with
                | ok a => rfl
                | error e4 => cases e4 <;> rfl
              | _ => rfl
          | _ => rfl
      | _ => rfl

/-- `NewTangible` as translated is the model's `genericItem`: a nested collection is shown as an
    error item. -/
theorem newTangible_eq (w : World) (e : E) :
    toItem (NewTangible (fetchUnknown w) (newActorFromObject w) (newPostFromObject w)
      (newActivityFromObject w) newCollectionFromObject e.1 e.2) = genericItem w e := by
  unfold GenListing.NewTangible genericItem
  rw [← new_eq]
  cases New (fetchUnknown w) (newActorFromObject w) (newPostFromObject w)
      (newActivityFromObject w) newCollectionFromObject e.1 e.2 <;> rfl

theorem containsStr_eq (l : List Str) (s : Str) : Go.containsStr l s = l.contains s := rfl

/-- `NewActorFromObject`: the translated head answers the error whose class the model's
    constructor answers, or passes the kind the model's actor is built with. -/
theorem actor_kind (L : Obj.Libs Time Url) (w : World) (o : O) (id : Option U) :
    match NewActorFromObject_kind L o id with
    | .error e => newActorFromObject w o id = .error e.cls
    | .ok k => ∃ a, newActorFromObject w o id = .ok a ∧ a.kind = k := by
  unfold NewActorFromObject_kind newActorFromObject Go.str
  rw [Gen17.getString_eq]
  cases Obj.getString o "type".toList with
  | error e => cases e <;> rfl
  | ok kind =>
    dsimp only
    -- `slices.Contains` on the list literal of the source is `actorKinds.contains`
    show match (if (!actorKinds.contains kind) = true then _ else _ : Except Go.Error Str) with
      | .error e => _
      | .ok k => _
    cases actorKinds.contains kind
    · rfl
    · exact ⟨_, rfl, rfl⟩

/-- `NewActivityFromObject`: likewise. -/
theorem activity_kind (L : Obj.Libs Time Url) (w : World) (o : O) (id : Option U) :
    match NewActivityFromObject_kind L o id with
    | .error e => newActivityFromObject w o id = .error e.cls
    | .ok k => ∃ a, newActivityFromObject w o id = .ok a ∧ a.kind = k := by
  unfold NewActivityFromObject_kind newActivityFromObject Go.str
  rw [Gen17.getString_eq]
  cases Obj.getString o "type".toList with
  | error e => cases e <;> rfl
  | ok kind =>
    dsimp only
    show match (if (!activityKinds.contains kind) = true then _ else _ : Except Go.Error Str) with
      | .error e => _
      | .ok k => _
    cases activityKinds.contains kind
    · rfl
    · exact ⟨_, rfl, rfl⟩

/-- `NewCollectionFromObject`: likewise. -/
theorem collection_kind (L : Obj.Libs Time Url) (o : O) (id : Option U) :
    match NewCollectionFromObject_kind L o id with
    | .error e => newCollectionFromObject o id = .error e.cls
    | .ok _ => ∃ c, newCollectionFromObject o id = .ok c := by
  unfold NewCollectionFromObject_kind newCollectionFromObject Go.str
  rw [Gen17.getString_eq]
  cases Obj.getString o "type".toList with
  | error e => cases e <;> rfl
  | ok kind =>
    dsimp only
    show match (if (!collKinds.contains kind) = true then _ else _ : Except Go.Error Str) with
      | .error e => _
      | .ok k => _
    cases collKinds.contains kind
    · rfl
    · exact ⟨_, rfl⟩

/-- `NewPostFromObject`, the whole decision as translated — the head (tombstone, kind list), the
    authors read with `getActors(o, "attributedTo", id)`, the forged-creators loop — against the
    model's constructor: the same refusals with errors of the same class, and a post of the kind
    the head passed exactly when the loop runs to its end. -/
theorem post_decision (L : Obj.Libs Time Url) (w : World) (o : O) (id : Option U) :
    match NewPostFromObject_kind L o id with
    | .error e => newPostFromObject w o id = .error e.cls
    | .ok k =>
      ∃ cs, getActors L (newActor w) o NewPostFromObject_creatorsKey id = .ok cs ∧
        match NewPostFromObject_creators id cs with
        | .ok none => ∃ p, newPostFromObject w o id = .ok p ∧ p.kind = k ∧ p.id = id ∧
            p.creators = cs.map toAorF
        | .ok (some e) => newPostFromObject w o id = .error e.cls
        | .error _ => False := by
  unfold NewPostFromObject_kind newPostFromObject Go.str
  rw [Gen17.getString_eq]
  cases Obj.getString o "type".toList with
  | error e => cases e <;> rfl
  | ok kind =>
    dsimp only
    by_cases ht : kind = "Tombstone".toList
    · rw [if_pos (decide_eq_true ht), if_pos ht]; rfl
    · rw [if_neg (by rw [decide_eq_true_eq]; exact ht), if_neg ht]
      show match (if (!postKinds.contains kind) = true then _ else _ : Except Go.Error Str) with
        | .error e => _
        | .ok k => _
      cases postKinds.contains kind
      · rfl
      · obtain ⟨cs, hcs, hg⟩ :=
          getActors_map toAorF (fun x => x) (fun _ => rfl) (fun _ => rfl) L w o "attributedTo".toList id
        refine ⟨cs, hcs, ?_⟩
        rw [creators_eq, hg, List.map_id']
        cases (Pub.getActors w o "attributedTo".toList id).all (creatorOk id)
        · rfl
        · exact ⟨_, rfl, rfl, rfl, rfl⟩

end Gen09
