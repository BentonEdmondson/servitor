import Model
import Model.GoHtml
import Generated.GoHypertext
import Props.Gen13
import Props.Gen14
import Proofs.Gen15h

/-
  The tie by translation for the HTML renderer (C01, C06, C12, C14, C15): hypertext/hypertext.go —
  the structs `Markup` and `context`, `mergeText`, `block`, `getAttribute`, `situationalWrap`,
  `bad`, `renderNode` (the `switch node.Type` / `switch node.Data` with every case list),
  `renderChildren`, `bulletedList`, `renderWithLinks`, `(*Markup).Render` — is translated from the
  source on every run (`extract/go2lean20.go` → `Generated/GoHypertext.lean`, namespace
  `GenHypertext`; `NewMarkup`, which calls `html.ParseFragment`, is the one function this unit
  leaves out, `untranslated_eq`: Props/Gen17m.lean has it, translated with the parser as a
  parameter).  The theorems below say the generated code computes what the hand-written model
  (`Model/Hypertext.lean`, `Model/Markup.lean`) computes: on every forest of Go nodes
  (`Go.Html.Node`: EVERY node has a type, `Data`, attributes and children, as in Go) the
  translated functions return what the model returns on `toDom` of it — the model's view, which
  keeps of a text node its `Data`, of an element name, attributes and children, of anything else
  nothing; so the translated code provably never looks at the rest — for every width, colours,
  context, parent and link list, text and link list alike; every right-hand side is `.ok …`:
  the translated functions do not panic (`lhsMatches[1]`, `[2]` are read off three-element
  answers, `strings.Repeat` in the `hr` case is guarded).

  The parameters of the translated code are instantiated as follows.
  * `c`: the processed colours, as in Gen14.  `expand`: the model's scanner `Gen13.goExpand`;
    the calls of `ansi.Wrap` / `DumbWrap` / `Pad` and `style.*` go to the translated `GenAnsiH.*`
    / `GenStyle.*`, which Gen13 / Gen14 equate with the model's.  `ansi.Scrub` is the model's
    `Ansi.scrub` (compared differentially under C01).
  * `W`, the three regular expressions of the file (`hypertext_patterns_eq` pins the literals):
    `(?s)^(.*?)([ \n]*)$` asked `FindStringSubmatch` answers the text, the text without its
    trailing blanks and newlines, and those (`re1_parts`); `(?s)^([ \n]*)(.*)$` the text, its
    leading blanks and newlines, the rest (`re2_parts`); `[ \t\n\r]+` asked `ReplaceAllString`
    cuts the text at its maximal runs of the four characters (`re3_cover`, `re3_collapse`).  That Go's
    regexp does this with these patterns is the differential side of C15 / C12 / C01 (every
    rendered document goes through them).
  * `nodeParent`, the parameter of the translated functions that carries `node.Parent`, is the
    `Data` of the parent or `none` (`Go.Html.parentDataIs` in `Model/GoHtml.lean`): the model's
    `parentLi` is `nodeParent = some "li"`.
  * `int` is the unbounded `Int`, as in the model.
-/

namespace Gen15h
open Str Ansi Hypertext Go.Html Gen15hP

/-- The regular expressions of hypertext.go in the model's terms. -/
def hExt : GenHypertext.Ext := Gen15hP.hExt

def toCtx (x : GenHypertext.context) : Ctx := Gen15hP.toCtx x

/-- The model's `parentLi` from the `Data` of the parent (`none`: no parent). -/
def parentLi (p : Option Str) : Bool := Go.Html.parentDataIs p "li".toList

def toGenH (m : Markup.M (List Node)) : GenHypertext.Markup := Gen15hP.toGenH m

def htmlR (c : Colors) (nodes : List Node) (w : Int) : Str := Markup.htmlR c (toDomList nodes) w

theorem untranslated_eq : GenHypertext.untranslated = ["NewMarkup"] := rfl

theorem hypertext_patterns_eq : GenHypertext.patterns =
    ["(?s)^(.*?)([ \\n]*)$", "(?s)^([ \\n]*)(.*)$", "[ \\t\\n\\r]+"] := rfl

/-- `trimRight`: the whole text, then two parts of it, the second all blanks and newlines, the
    first not ending in one. -/
theorem re1_parts (s : Str) : ∃ a b, hExt.re1 s = [s, a, b] ∧ a ++ b = s ∧ b.all isSpNl = true ∧
    (∀ ch, a.getLast? = some ch → isSpNl ch = false) := by
  refine ⟨trimRight isSpNl s, s.drop (trimRight isSpNl s).length, rfl, ?_, ?_, trimRight_last isSpNl s⟩
  · rw [drop_trimRight, trimRight_split]
  · rw [drop_trimRight, List.all_reverse, List.all_takeWhile]

/-- `trimLeft`: the whole text, then two parts of it, the first all blanks and newlines, the
    second not starting with one. -/
theorem re2_parts (s : Str) : ∃ a b, hExt.re2 s = [s, a, b] ∧ a ++ b = s ∧ a.all isSpNl = true ∧
    (∀ ch, b.head? = some ch → isSpNl ch = false) := by
  refine ⟨s.takeWhile isSpNl, s.dropWhile isSpNl, rfl, List.takeWhile_append_dropWhile, List.all_takeWhile, fun ch h => ?_⟩
  simpa [h] using List.head?_dropWhile_not isSpNl s

theorem re3_cover (s : Str) : ((hExt.re3 s).map (·.text)).flatten = s := Gen15hP.wsPieces_cover s

theorem re3_collapse (s : Str) : Go.Regexp.replaceAllString (hExt.re3 s) " ".toList = collapseWs s :=
  Gen15hP.replaceAll_ws s

theorem mergeText_eq (c : Colors) (l r : Str) :
    GenHypertext.mergeText c Gen13.goExpand hExt l r = .ok (Hypertext.mergeText l r) :=
  Gen15hP.mergeText_eq c l r

theorem block_eq (c : Colors) (t : Str) :
    GenHypertext.block c Gen13.goExpand hExt t = .ok (Hypertext.block t) :=
  Gen15hP.block_eq c t

/-- First attribute of the name, scrubbed; the namespace of an attribute is not looked at. -/
theorem getAttribute_eq (c : Colors) (name : Str) (attrs : List Attribute) :
    GenHypertext.getAttribute c Gen13.goExpand hExt name attrs =
      .ok (Hypertext.getAttribute name (attrs.map fun x => (x.Key, x.Val))) :=
  Gen15hP.getAttribute_eq c name attrs

theorem situationalWrap_eq (c : Colors) (t : Str) (ctx : GenHypertext.context) :
    GenHypertext.situationalWrap c Gen13.goExpand hExt t ctx = .ok (Hypertext.situationalWrap t (toCtx ctx)) :=
  Gen15hP.situationalWrap_eq c t ctx

/-- `renderNode`: for every node, parent, context and link list (the model's ghost component is
    arbitrary): the text and the link list the call leaves. -/
theorem renderNode_eq (c : Colors) (n : Node) (parent : Option Str) (ctx : GenHypertext.context) (ls : LinkSt) :
    GenHypertext.renderNode c Gen13.goExpand hExt n parent ctx ls.links =
      .ok ((Hypertext.renderNode c (toDom n) (toCtx ctx) (parentLi parent) ls).1,
           (Hypertext.renderNode c (toDom n) (toCtx ctx) (parentLi parent) ls).2.links) :=
  Gen15hP.renderNode_eq c n parent ctx ls

/-- `renderChildren`: the fold over the children, who are told whether this node is an `li`. -/
theorem renderChildren_eq (c : Colors) (n : Node) (parent : Option Str) (ctx : GenHypertext.context) (ls : LinkSt) :
    GenHypertext.renderChildren c Gen13.goExpand hExt n parent ctx ls.links =
      .ok ((Hypertext.renderChildren c (toDomList n.kids) (toCtx ctx) (decide (n.data = "li".toList)) ls).1,
           (Hypertext.renderChildren c (toDomList n.kids) (toCtx ctx) (decide (n.data = "li".toList)) ls).2.links) := by
  obtain ⟨t, d, a, ks⟩ := n
  exact Gen15hP.renderChildren_of c t d a ks (Gen15hP.kids_eq c ks) parent ctx ls

/-- `bad`: the name in red around the children. -/
theorem bad_eq (c : Colors) (n : Node) (parent : Option Str) (ctx : GenHypertext.context) (ls : LinkSt) :
    GenHypertext.bad c Gen13.goExpand hExt n parent ctx ls.links =
      .ok (Style.red c ('<' :: n.data ++ ['>']) ++
             (Hypertext.renderChildren c (toDomList n.kids) (toCtx ctx) (decide (n.data = "li".toList)) ls).1 ++
             Style.red c ('<' :: '/' :: n.data ++ ['>']),
           (Hypertext.renderChildren c (toDomList n.kids) (toCtx ctx) (decide (n.data = "li".toList)) ls).2.links) := by
  obtain ⟨t, d, a, ks⟩ := n
  exact Gen15hP.bad_of c t d a ks (Gen15hP.kids_eq c ks) parent ctx ls

/-- `bulletedList`: the bullets at a width narrower by two, in a block unless the parent is an `li`. -/
theorem bulletedList_eq (c : Colors) (n : Node) (parent : Option Str) (ctx : GenHypertext.context) (ls : LinkSt) :
    GenHypertext.bulletedList c Gen13.goExpand hExt n parent ctx ls.links =
      .ok (let r := Hypertext.bulleted c (toDomList n.kids) { toCtx ctx with width := ctx.width - 2 } ls
           ((if parentLi parent then r else (Hypertext.block r.1, r.2)).1,
            (if parentLi parent then r else (Hypertext.block r.1, r.2)).2.links)) := by
  obtain ⟨t, d, a, ks⟩ := n
  exact Gen15hP.bulletedList_of c t d a ks (Gen15hP.bkids_eq c ks) parent ctx ls

/-- `renderWithLinks`: text and links, for every forest of Go nodes and every width (also zero
    and negative ones). -/
theorem renderWithLinks_eq (c : Colors) (nodes : List Node) (w : Int) :
    GenHypertext.renderWithLinks c Gen13.goExpand hExt nodes w =
      .ok (Hypertext.renderWithLinks c (toDomList nodes) w) :=
  Gen15hP.renderWithLinks_eq c nodes w

theorem toDom_ofDom (f : List Dom.Node) : toDomList (ofDomList f) = f := Gen15hP.toDomList_ofDomList f

/-- By `toDom_ofDom` the model, on EVERY forest it quantifies over, is the translated code on a Go
    forest. -/
theorem renderWithLinks_model (c : Colors) (f : List Dom.Node) (w : Int) :
    GenHypertext.renderWithLinks c Gen13.goExpand hExt (ofDomList f) w = .ok (Hypertext.renderWithLinks c f w) := by
  rw [renderWithLinks_eq, toDom_ofDom]

/-- `Render`: compare the width, else render and remember — the model's `Markup.render`, in the
    text returned and in the markup left behind. -/
theorem render_eq (c : Colors) (m : Markup.M (List Node)) (w : Int) :
    GenHypertext.Render c Gen13.goExpand hExt (toGenH m) w =
      .ok ((Markup.render (htmlR c) m w).1, toGenH (Markup.render (htmlR c) m w).2) := by
  simp only [GenHypertext.Render, renderWithLinks_eq, Gen14.bind_ok, toGenH, Gen15hP.toGenH]
  rw [← Markup.htmlR]
  exact Gen15P.render_of GenHypertext.Markup.mk (htmlR c) m w

/-- The translated `Render` called at a sequence of widths, each call on the markup the previous
    one left: all the texts and the final markup. -/
def renderSeq (c : Colors) (m : GenHypertext.Markup) : List Int → Except Panic (List Str × GenHypertext.Markup)
  | [] => .ok ([], m)
  | w :: ws => do
    let r ← GenHypertext.Render c Gen13.goExpand hExt m w
    let rest ← renderSeq c r.2 ws
    return (r.1 :: rest.1, rest.2)

/-- The cache over any sequence of widths is the model's. -/
theorem renderSeq_eq (c : Colors) (m : Markup.M (List Node)) (ws : List Int) :
    renderSeq c (toGenH m) ws =
      .ok ((Markup.renderSeq (htmlR c) m ws).1, toGenH (Markup.renderSeq (htmlR c) m ws).2) :=
  Gen15P.renderSeq_of toGenH _ _ (renderSeq c) (fun _ => rfl) (fun _ _ _ => rfl) (render_eq c) m ws

end Gen15h
