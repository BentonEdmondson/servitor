import Model
import Generated.Facts

/-
  The key dispatch of `ui.State.Update`, read from the source on every run (`Generated.keymap`,
  `Generated.uiConstants`, `Generated.inputTests`), is the one the model `Ui.update` implements and
  the C07 theorems describe (`k` up, `j` down, `g` centre, `h` back, `l` forward, space opens,
  `c`/`r`/`a` creators/recipients/actor, `o`/`p`/`b` media/picture/banner).  Calls of the pure
  accessor `Current` are dropped before comparing, so that hoisting `s.h.Current().feed.Current()`
  into a variable does not disturb the comparison.
-/

namespace Facts07

def essential (calls : List String) : List String := calls.filter (· != "Current")

/-- Which key does what, as written in `switch input`. -/
theorem keymap_is_the_documented_one :
    Generated.keymap.map (fun kc => (kc.1, essential kc.2)) =
      [(["'k'"], ["MoveUp", "loadSurroundings"]),
       (["'j'"], ["MoveDown", "loadSurroundings"]),
       (["'g'"], ["MoveToCenter"]),
       (["'h'"], ["Back"]),
       (["'l'"], ["Forward"]),
       (["' '"], ["switchTo"]),
       (["'c'"], ["as *pub.Activity", "Target", "as *pub.Post", "Creators", "switchTo"]),
       (["'r'"], ["as *pub.Activity", "Target", "as *pub.Post", "Recipients", "switchTo"]),
       (["'a'"], ["as *pub.Activity", "Actor", "switchTo"]),
       (["'o'"], ["as *pub.Activity", "Target", "as *pub.Post", "Media", "openExternally"]),
       (["'p'"], ["as *pub.Actor", "ProfilePic", "openExternally"]),
       (["'b'"], ["as *pub.Actor", "Banner", "openExternally"])] := by decide +kernel

/-- The special keys are the codes the model tests for (`Ui.update`: 27, 127, 13). -/
theorem special_keys : Generated.uiConstants = ["enterKey='\\r'", "escapeKey=27", "backspaceKey=127"] := rfl

/-- Before the dispatch, `input` is only compared with Escape, Backspace, Enter, `:`, the digit
    range and `.` — in this order. -/
theorem pre_dispatch_tests :
    Generated.inputTests =
      ["input==escapeKey", "input==backspaceKey", "input==enterKey", "input==':'", "input>='0'",
       "input<='9'", "input=='.'", "input==enterKey", "input=='.'", "input==enterKey"] := rfl

/-- No key stands in two cases of the dispatch. -/
theorem keys_distinct : (Generated.keymap.map (·.1)).flatten.Nodup := by decide +kernel

end Facts07
