import Model.Main
import Generated.GoMain
import Proofs.Gen16m

/-
  The tie by translation for main.go: `printRaw`, the size poller, the goroutine that runs the
  subcommand, the key loop and the start-up sequence are translated from the source on every run
  (`extract/go2lean25.go` → `Generated/GoMain.lean`, namespace `GenMain`), with
  `(*State).SetWidthHeight` and the size `NewState` starts with from ui/ui.go.  The theorems below
  say the translated code does what the hand-written model (`Model/Main.lean`) says, step function
  by step function.

  Then, for the program as a whole (`run`: any sequence of poll rounds and key rounds, each
  performed by the translated step functions on an interface state with an arbitrary `Update`
  that does not touch the size): the size the interface state holds is the size the last poll round
  read, or the start-up size if there was none (`size_is_last_poll`); and the shape of what
  `printRaw` writes.
-/

namespace Gen16m
open Go.Term

theorem replaceAll_crlf (s : Str) :
    Go.Strings.replaceAll s (Go.str "\n") (Go.str "\r\n") = Main.crlf s :=
  Gen16mP.replaceAll_crlf s

/-- `printRaw` writes once: cursor home, clear screen, the frame with CR LF for every LF. -/
theorem printRaw_eq (frame : Str) :
    GenMain.printRaw none frame = .ok [Act.write (Main.printRaw frame)] :=
  Gen16mP.printRaw_eq frame

/-- A write that fails is a panic. -/
theorem printRaw_err (e frame : Str) :
    GenMain.printRaw (some e) frame = .error (.explicit "panic(err)") := rfl

/-- One round of the poller is the model's: the variables (there are none) come back, the loop
    goes on. -/
theorem pollStep_eq (v : GenMain.PollVars) (got : SizeResult) :
    GenMain.pollStep v got = (Main.pollStep got).map fun acts => ⟨v, acts, false⟩ :=
  Gen16mP.pollStep_eq v got

/-- A successful round hands exactly the size it read to `SetWidthHeight`, whatever that size is. -/
theorem pollStep_ok (v : GenMain.PollVars) (w h : Int) :
    GenMain.pollStep v ⟨w, h, none⟩
      = .ok ⟨v, [Act.sleep 25000000, Act.getSize, Act.setWidthHeight w h], false⟩ :=
  Gen16mP.pollStep_ok v w h

/-- One round of the key loop with a one-byte buffer (what `make([]byte, 1)` gives): the byte
    handled is the first byte delivered, or — when nothing was delivered — the byte the buffer
    still holds from the round before. -/
theorem keyStep_eq (b0 : Nat) (read : List Nat) :
    GenMain.keyStep ⟨[b0]⟩ read none
      = .ok ⟨⟨[read.head?.getD b0]⟩, (Main.keyStep (read.head?.getD b0)).1, (Main.keyStep (read.head?.getD b0)).2⟩ :=
  Gen16mP.keyStep_eq b0 read

/-- A byte was delivered: ctrl+c ends the loop after `printRaw ""`, anything else is one `go Update`. -/
theorem keyStep_byte (b0 b : Nat) :
    GenMain.keyStep ⟨[b0]⟩ [b] none
      = .ok ⟨⟨[b]⟩, if b = 3 then [Act.write (Main.printRaw [])] else [Act.update b true], decide (b = 3)⟩ := by
  rw [keyStep_eq]
  by_cases h : b = 3 <;> simp [Main.keyStep, h]

/-- Nothing was delivered (end of input, an error): the previous byte is handled once more. -/
theorem keyStep_short (b0 : Nat) :
    GenMain.keyStep ⟨[b0]⟩ [] none = GenMain.keyStep ⟨[b0]⟩ [b0] none :=
  Gen16mP.keyStep_short b0

/-- The goroutine that runs the subcommand, with at least three arguments on the command line. -/
theorem subcommandStep_eq (v : GenMain.SubVars) (a0 a1 a2 : Str) (rest : List Str) (result : Option Str) :
    GenMain.subcommandStep v (a0 :: a1 :: a2 :: rest) result
      = .ok ⟨⟨result⟩, Main.subcommandStep a1 a2 result, true⟩ := by
  cases result <;> rfl

theorem start_acts (args : List Str) (raw : Option Str) (got : SizeResult) :
    (GenMain.start args raw got).map (·.acts) = Main.start args raw got := by
  obtain ⟨w, h, e⟩ := got
  have hlen : (Go.len args < 3) = (args.length < 3) := by unfold Go.len; exact propext (by omega)
  simp only [GenMain.start, Main.start, hlen]
  by_cases hl : args.length < 3
  · simp only [hl, decide_true, if_true]; rfl
  · simp only [hl, decide_false]; cases raw <;> cases e <;> rfl

/-- When `main` reaches its loop, the key loop starts with a one-byte buffer holding zero, the
    poller carries nothing. -/
theorem start_vars (a0 a1 a2 : Str) (rest : List Str) (w h : Int) :
    ∃ st, GenMain.start (a0 :: a1 :: a2 :: rest) none ⟨w, h, none⟩ = .ok st ∧
      st.keyVars = some ⟨[0]⟩ ∧ st.pollVars = some ⟨⟩ ∧ st.subVars = some ⟨none⟩ ∧
      Act.newState w h "printRaw" ∈ st.acts :=
  Gen16mP.start_vars a0 a1 a2 rest w h

/-- `NewState` stores the size it is given. -/
theorem newStateSize_eq (w h : Int) : GenMain.newStateSize w h = (w, h) := rfl

/-- `SetWidthHeight`: nothing happens when nothing changed; otherwise both numbers are stored and one
    frame is drawn, from the state with the new size. -/
theorem setWidthHeight_eq (s : GenView.State) (w h : Int) :
    GenMain.SetWidthHeight s w h
      = .ok (if s.width = w ∧ s.height = h then (s, [])
             else ({ s with width := w, height := h }, [{ s with width := w, height := h }])) :=
  Gen16mP.setWidthHeight_eq s w h

/-- In the model's words (`Main.resize`). -/
theorem setWidthHeight_resize (s : GenView.State) (w h : Int) :
    ∃ s' frames, GenMain.SetWidthHeight s w h = .ok (s', frames) ∧
      (s'.width, s'.height) = (Main.resize (s.width, s.height) w h).1 ∧
      (frames.length = if (Main.resize (s.width, s.height) w h).2 then 1 else 0) ∧
      ∀ d ∈ frames, d = s' := by
  rw [setWidthHeight_eq, Main.resize]
  by_cases hc : s.width = w ∧ s.height = h
  · rw [if_pos hc, if_pos (by rw [hc.1, hc.2])]
    exact ⟨s, [], rfl, rfl, rfl, by simp⟩
  · rw [if_neg hc, if_neg (by simpa using hc)]
    exact ⟨_, _, rfl, rfl, rfl, by simp⟩

/-- The interface state as `main` uses it: `SetWidthHeight` and `Update`, each giving the state it
    leaves and the states it drew frames from. -/
structure Iface (σ : Type) where
  resize : σ → Int → Int → σ × List σ
  update : σ → Nat → σ × List σ

/-- One round of one of the two loops of `main`, with what the outside world handed it. -/
inductive Event where
  /-- a round of the size poller: what `term.GetSize` returned -/
  | poll (got : SizeResult)
  /-- a round of the key loop: the bytes `os.Stdin.Read` delivered -/
  | key (read : List Nat)

/-- The program between two rounds. -/
structure Run (σ : Type) where
  state : σ
  pollVars : GenMain.PollVars
  keyVars : GenMain.KeyVars
  /-- the states frames were drawn from, oldest first -/
  drawn : List σ
  /-- what `main` wrote itself -/
  written : List Str
  /-- `false` once a round has panicked or the key loop has returned -/
  live : Bool

variable {σ : Type}

/-- The effect of one action on the interface state (an `Update` started with `go` takes the lock at
    some later moment; a history lists the rounds in the order their calls took it). -/
def perform (I : Iface σ) (r : Run σ) : Act → Run σ
  | .setWidthHeight w h => { r with state := (I.resize r.state w h).1, drawn := r.drawn ++ (I.resize r.state w h).2 }
  | .update b _ => { r with state := (I.update r.state b).1, drawn := r.drawn ++ (I.update r.state b).2 }
  | .write t => { r with written := r.written ++ [t] }
  | _ => r

/-- One round, performed by the TRANSLATED step function. -/
def step (I : Iface σ) (r : Run σ) : Event → Run σ
  | .poll got =>
    if r.live then
      match GenMain.pollStep r.pollVars got with
      | .error _ => { r with live := false }
      | .ok st => { st.acts.foldl (perform I) r with pollVars := st.vars }
    else r
  | .key read =>
    if r.live then
      match GenMain.keyStep r.keyVars read none with
      | .error _ => { r with live := false }
      | .ok st => { st.acts.foldl (perform I) r with keyVars := st.vars, live := !st.done }
    else r

def run (I : Iface σ) (r : Run σ) (evs : List Event) : Run σ := evs.foldl (step I) r

def lastSize (start : Int × Int) : List Event → Int × Int
  | [] => start
  | .poll got :: evs => lastSize (if got.err = none then (got.width, got.height) else start) evs
  | .key _ :: evs => lastSize start evs

theorem run_nil (I : Iface σ) (r : Run σ) : run I r [] = r := rfl

theorem run_cons (I : Iface σ) (r : Run σ) (e : Event) (evs : List Event) :
    run I r (e :: evs) = run I (step I r e) evs := rfl

theorem run_append (I : Iface σ) (r : Run σ) (a b : List Event) :
    run I r (a ++ b) = run I (run I r a) b := by
  simp [run, List.foldl_append]

theorem step_dead (I : Iface σ) (r : Run σ) (e : Event) (h : r.live = false) : step I r e = r := by
  cases e <;> simp [step, h]

theorem step_poll_ok (I : Iface σ) (r : Run σ) (w h : Int) (hl : r.live = true) :
    step I r (.poll ⟨w, h, none⟩)
      = { r with state := (I.resize r.state w h).1, drawn := r.drawn ++ (I.resize r.state w h).2 } := by
  simp only [step, hl, if_true, Gen16mP.pollStep_ok, List.foldl_cons, List.foldl_nil, perform]

theorem step_poll_err (I : Iface σ) (r : Run σ) (w h : Int) (e : Str) (hl : r.live = true) :
    step I r (.poll ⟨w, h, some e⟩) = { r with live := false } := by
  simp only [step, hl, if_true, Gen16mP.pollStep_err]

theorem step_key_cases (I : Iface σ) (r : Run σ) (read : List Nat) :
    ((step I r (.key read)).state = r.state ∧ (step I r (.key read)).drawn = r.drawn) ∨
    ∃ b, (step I r (.key read)).state = (I.update r.state b).1 ∧
      (step I r (.key read)).drawn = r.drawn ++ (I.update r.state b).2 ∧
      (step I r (.key read)).live = true := by
  cases hl : r.live with
  | false => rw [step_dead I r _ hl]; exact Or.inl ⟨rfl, rfl⟩
  | true =>
    cases hk : GenMain.keyStep r.keyVars read none with
    | error e => left; simp only [step, hl, if_true, hk, and_self]
    | ok st =>
      simp only [step, hl, if_true, hk]
      rcases Gen16mP.keyStep_shape _ _ _ hk with ⟨ha, hd⟩ | ⟨b, ha, hd⟩
      · rw [ha]; exact Or.inl ⟨rfl, rfl⟩
      · rw [ha, hd]; exact Or.inr ⟨b, rfl, rfl, by simp⟩

def nextSize (start : Int × Int) : Event → Int × Int
  | .poll got => if got.err = none then (got.width, got.height) else start
  | .key _ => start

theorem lastSize_cons (start : Int × Int) (e : Event) (evs : List Event) :
    lastSize start (e :: evs) = lastSize (nextSize start e) evs := by
  cases e <;> rfl

theorem step_size (I : Iface σ) (size : σ → Int × Int)
    (hres : ∀ s w h, size (I.resize s w h).1 = (w, h))
    (hupd : ∀ s b, size (I.update s b).1 = size s)
    (r : Run σ) (e : Event) (hl : r.live = true) :
    size (step I r e).state = nextSize (size r.state) e := by
  cases e with
  | poll got =>
    obtain ⟨w, h, err⟩ := got
    cases err with
    | none => rw [step_poll_ok I r w h hl]; simp [nextSize, hres]
    | some e => rw [step_poll_err I r w h e hl]; simp [nextSize]
  | key read =>
    rcases step_key_cases I r read with ⟨hs, _⟩ | ⟨b, hs, _, _⟩
    · rw [hs]; rfl
    · rw [hs, hupd]; rfl

theorem run_dead (I : Iface σ) (r : Run σ) (evs : List Event) (h : r.live = false) : run I r evs = r := by
  induction evs with
  | nil => rfl
  | cons e evs ih => rw [run_cons, step_dead I r e h, ih]

theorem run_live (I : Iface σ) (r : Run σ) (evs : List Event) (h : (run I r evs).live = true) :
    r.live = true := by
  cases hl : r.live with
  | true => rfl
  | false => rw [run_dead I r evs hl, hl] at h; cases h

/-- **The size the interface state holds is the size read in the last poll round.**  For every
    interface state whose `SetWidthHeight` stores the size (`setWidthHeight_eq`) and whose `Update`
    leaves it alone, for every history of poll rounds and key rounds after which the program still
    runs (whatever the key buffer holds): the size is what the last poll round read — whatever it was, equal
    to an earlier size or not — and the start-up size if no poll round happened yet. -/
theorem size_is_last_poll (I : Iface σ) (size : σ → Int × Int)
    (hres : ∀ s w h, size (I.resize s w h).1 = (w, h))
    (hupd : ∀ s b, size (I.update s b).1 = size s)
    (r : Run σ) (evs : List Event)
    (hlive : (run I r evs).live = true) :
    size (run I r evs).state = lastSize (size r.state) evs := by
  induction evs generalizing r with
  | nil => rfl
  | cons e evs ih =>
    rw [run_cons] at hlive ⊢
    rw [ih _ hlive, step_size I size hres hupd r e (run_live I r [e] (run_live I _ evs hlive)),
      lastSize_cons]

/-- Without the liveness hypothesis: a round that fails or leaves freezes the state, so the size is
    always the size some prefix of the history ends with. -/
theorem size_is_some_prefix (I : Iface σ) (size : σ → Int × Int)
    (hres : ∀ s w h, size (I.resize s w h).1 = (w, h))
    (hupd : ∀ s b, size (I.update s b).1 = size s)
    (r : Run σ) (evs : List Event) :
    ∃ n, size (run I r evs).state = lastSize (size r.state) (evs.take n) := by
  induction evs generalizing r with
  | nil => exact ⟨0, rfl⟩
  | cons e evs ih =>
    cases hl : r.live with
    | false => exact ⟨0, by rw [run_dead I r _ hl]; rfl⟩
    | true =>
      obtain ⟨n, hn⟩ := ih (step I r e)
      refine ⟨n + 1, ?_⟩
      rw [run_cons, hn, step_size I size hres hupd r e hl, List.take_succ_cons, lastSize_cons]

/-- One CR LF pair per line feed of the frame, however the frame looks. -/
theorem crlf_pairs (s : Str) : Main.crlfPairs (Main.crlf s) = Str.countNL s := by
  induction s using Gen16mP.nl_induction with
  | nil => rfl
  | nl cs ih =>
    simp only [Str.countNL] at ih
    simp [Gen16mP.crlf_nl, Main.crlfPairs, Str.countNL, ih, Nat.add_comm]
  | other c cs hc ih =>
    simp only [Str.countNL] at ih
    simp [Gen16mP.crlf_other c cs hc, Main.crlfPairs, Str.countNL, ih, Gen16mP.crlf_head,
      List.count_cons_of_ne hc]

/-- Taking the carriage returns out gives the frame back (a frame without carriage returns). -/
theorem crlf_strip (s : Str) (h : '\r' ∉ s) : (Main.crlf s).filter (· ≠ '\r') = s := by
  induction s using Gen16mP.nl_induction with
  | nil => rfl
  | nl cs ih =>
    rw [Gen16mP.crlf_nl, List.filter_cons_of_neg (by decide), List.filter_cons_of_pos (by decide),
      ih (List.not_mem_of_not_mem_cons h)]
  | other c cs hc ih =>
    rw [Gen16mP.crlf_other c cs hc,
      List.filter_cons_of_pos (by simpa using (List.ne_of_not_mem_cons h).symm),
      ih (List.not_mem_of_not_mem_cons h)]

/-- In what replaces the frame, every carriage return of a frame that had none stands directly
    before a line feed. -/
theorem crlf_cr_before_lf (s : Str) (h : '\r' ∉ s) (a b : Str) (hs : Main.crlf s = a ++ '\r' :: b) :
    b.head? = some '\n' := by
  induction s using Gen16mP.nl_induction generalizing a with
  | nil => simp [Main.crlf] at hs
  | nl cs ih =>
    rw [Gen16mP.crlf_nl] at hs
    match a, hs with
    | [], hs => rw [← (List.cons.inj hs).2]; rfl
    | [x], hs => exact absurd (List.cons.inj (List.cons.inj hs).2).1 (by decide)
    | x :: y :: a, hs => exact ih (List.not_mem_of_not_mem_cons h) a (List.cons.inj (List.cons.inj hs).2).2
  | other c cs hc ih =>
    rw [Gen16mP.crlf_other c cs hc] at hs
    cases a with
    | nil => exact absurd (List.cons.inj hs).1.symm (List.ne_of_not_mem_cons h)
    | cons x a => exact ih (List.not_mem_of_not_mem_cons h) a (List.cons.inj hs).2

/-- A frame of `n + 1` lines is written as the fixed prefix and `n` CR LF pairs: the translated
    `printRaw` writes `home ++ clear ++ t` where `t` has exactly `n` pairs. -/
theorem printRaw_pairs (frame : Str) :
    ∃ t, GenMain.printRaw none frame = .ok [Act.write (Main.home ++ Main.clear ++ t)] ∧
      Main.crlfPairs t = Str.countNL frame ∧ Str.countNL t = Str.countNL frame :=
  ⟨Main.crlf frame, printRaw_eq frame, crlf_pairs frame, Gen16mP.crlf_countNL frame⟩

/-- Whatever the frame, the only characters `printRaw` adds to it after the fixed prefix are
    carriage returns. -/
theorem printRaw_adds_cr_only (frame : Str) :
    ∃ t, GenMain.printRaw none frame = .ok [Act.write (Main.home ++ Main.clear ++ t)] ∧
      ∀ ch ∈ t, ch = '\r' ∨ ch ∈ frame :=
  ⟨Main.crlf frame, printRaw_eq frame, Gen16mP.crlf_mem frame⟩

end Gen16m
