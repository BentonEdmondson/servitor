import Model
import Generated.GoCollection
import Props.C10
import Props.Gen10

/-
  C10 stated directly about the code as translated from pub/collection.go
  (`Generated/GoCollection.lean`), carried across the equalities of `Props/Gen10.lean`.
  `GenCollection.Harvest load fuel c amount start` is the Go `c.Harvest(amount, start)` with
  recursion depth at most `fuel`; `Gen10.fuelBound amount = (amount + 1) * 4 + 1` is enough for
  every world.  The specification side (`Coll.flat`, `Coll.endsCleanly`: the true sequence of the
  chain) reads the Go structs through `Gen10.toPage`.
-/

namespace GenT10
open Coll GenCollection Gen10

variable {R E : Type}

/-- `harvest_bounded` on the code: `Harvest` returns (no panic) for every fuel from
    `(amount + 1) * (threshold + 1) + 1` on, whatever the chain — and the least fuel with which it
    returns is the number of pages the model visits. -/
theorem harvest_bounded (load : R → Option (Collection R E)) (c : Collection R E) (amount start : Nat)
    (has : amount + start < 2 ^ 64) :
    (∀ fuel, (amount + 1) * (threshold + 1) + 1 ≤ fuel →
      ∃ r, Harvest load fuel c amount start = some (.ok r)) ∧
    (∀ fuel, Harvest load fuel c amount start = none ↔
      fuel < (harvest (toLoad load) (toPage c) amount start).pages) ∧
    (harvest (toLoad load) (toPage c) amount start).pages ≤ (amount + 1) * (threshold + 1) + 1 :=
  ⟨harvest_terminates load c amount start has,
   fun fuel => harvest_depth load fuel c amount start has,
   C10.harvest_bounded _ _ _ _⟩

/-- `harvest_prefix` on the code: what the translated `Harvest` delivers is a prefix of the true
    sequence of the chain (in order, each item once), of at most `amount` items, followed by at
    most one error item; after an error item the continuation is nil. -/
theorem harvest_prefix (load : R → Option (Collection R E)) (c : Collection R E) (amount start fuel : Nat)
    (has : amount + start < 2 ^ 64) (hfuel : fuelBound amount ≤ fuel) :
    ∃ r, Harvest load fuel c amount start = some (.ok r) ∧
      ∃ (items : List E) (tail : List (Out E)),
        r.1 = items.map Out.item ++ tail ∧
        items.length ≤ amount ∧
        (tail = [] ∨ (∃ f, tail = [f] ∧ f.isItem = false ∧ r.2.1 = none)) ∧
        ∃ n, items <+: flat (toLoad load) n (toPage c) start := by
  obtain ⟨r, hr, hout, hcont, _⟩ := harvest_eq load c amount start fuel has hfuel
  refine ⟨r, hr, ?_⟩
  simpa only [hout, ← toCont_none, hcont] using C10.harvest_prefix (toLoad load) (toPage c) amount start

/-- `harvest_complete` on the code: a nil continuation without an error item is returned only
    at the true end of a chain that ends cleanly, and then everything from the offset on has been
    delivered. -/
theorem harvest_complete (load : R → Option (Collection R E)) (c : Collection R E) (amount start fuel : Nat)
    (has : amount + start < 2 ^ 64) (hfuel : fuelBound amount ≤ fuel)
    (r : Ret R E) (hr : Harvest load fuel c amount start = some (.ok r))
    (hn : r.2.1 = none) (hi : ∀ o ∈ r.1, o.isItem = true) :
    ∃ n, endsCleanly (toLoad load) n (toPage c) = true ∧
      r.1 = (flat (toLoad load) n (toPage c) start).map Out.item := by
  obtain ⟨hout, hcont⟩ := harvest_ok has hfuel hr
  rw [hout] at hi ⊢
  exact C10.harvest_complete _ _ _ _ (hcont ▸ (toCont_none r.2).mpr hn) hi

/-- `harvest_cont` on the code: a non-nil continuation comes with exactly `amount` items and no
    error item, and points at an offset inside a page that still has undelivered items. -/
theorem harvest_cont (load : R → Option (Collection R E)) (c : Collection R E) (amount start fuel : Nat)
    (has : amount + start < 2 ^ 64) (hfuel : fuelBound amount ≤ fuel)
    (r : Ret R E) (hr : Harvest load fuel c amount start = some (.ok r))
    (p : Collection R E) (hp : r.2.1 = some p) :
    (∃ items : List E, r.1 = items.map Out.item ∧ items.length = amount) ∧
    r.2.2 < (toPage p).items.length := by
  obtain ⟨hout, hcont⟩ := harvest_ok has hfuel hr
  rw [hout]
  exact C10.harvest_cont _ _ _ _ (toPage p) r.2.2 (hcont ▸ toCont_some hp)

/-- `harvest_compose` on the code: asking for `n₁` and then for `n₂` through the returned
    continuation delivers exactly what one request of `n₁ + n₂` delivers, with the same final
    continuation: no duplicates, gaps or reordering across requests. -/
theorem harvest_compose (load : R → Option (Collection R E)) (c : Collection R E) (n₁ n₂ start fuel : Nat)
    (has : n₁ + n₂ + start < 2 ^ 64) (hfuel : fuelBound (n₁ + n₂) ≤ fuel)
    (r₁ : Ret R E) (h₁ : Harvest load fuel c n₁ start = some (.ok r₁))
    (p : Collection R E) (hp : r₁.2.1 = some p) (hoff : n₂ + r₁.2.2 < 2 ^ 64) :
    ∃ r r₂, Harvest load fuel c (n₁ + n₂) start = some (.ok r) ∧
      Harvest load fuel p n₂ r₁.2.2 = some (.ok r₂) ∧
      r.1 = r₁.1 ++ r₂.1 ∧ toCont r.2 = toCont r₂.2 := by
  have hb : ∀ n, n ≤ n₁ + n₂ → fuelBound n ≤ fuel := fun n h => by
    rw [fuelBound_value] at hfuel ⊢; omega
  obtain ⟨r, hr, hout, hcont, _⟩ := harvest_eq load c (n₁ + n₂) start fuel has hfuel
  obtain ⟨r₂, hr₂, hout₂, hcont₂, _⟩ := harvest_eq load p n₂ r₁.2.2 fuel hoff (hb n₂ (by omega))
  obtain ⟨hout₁, hcont₁⟩ := harvest_ok (by omega) (hb n₁ (by omega)) h₁
  have := C10.harvest_compose (toLoad load) (toPage c) n₁ n₂ start (toPage p) r₁.2.2
    (hcont₁ ▸ toCont_some hp)
  exact ⟨r, r₂, hr, hr₂, by rw [hout, this.1, hout₁, hout₂], by rw [hcont, this.2, hcont₂]⟩

section
/-- reference 0 ↦ page [a, b] → 1, reference 1 ↦ page [c] → 0: a cycle -/
private def cyc : Nat → Option (Collection Nat Char)
  | 0 => some ⟨['a', 'b'], none, 1, none⟩
  | 1 => some ⟨['c'], none, 0, none⟩
  | _ => none

/-- five items from offset 1 of the first page go twice round the cycle and stop with the
    continuation (first page, 0) -/
example : Harvest cyc (fuelBound 5) ⟨['a', 'b'], none, 1, none⟩ 5 1 =
    some (.ok ([.item 'b', .item 'c', .item 'a', .item 'b', .item 'c'],
      some ⟨['a', 'b'], none, 1, none⟩, 0)) := by
  rfl

/-- with too little fuel the translation says so rather than inventing a result -/
example : Harvest cyc 4 ⟨['a', 'b'], none, 1, none⟩ 5 1 = none := by
  rfl

/-- an empty page that points at itself: refused at the fourth consecutive empty page, within
    the fuel bound -/
private def loop0 : Nat → Option (Collection Nat Char)
  | _ => some ⟨[], none, 0, none⟩

example : Harvest loop0 (fuelBound 10) ⟨[], none, 0, none⟩ 10 0 = some (.ok ([.refuse], none, 0)) := by
  rfl

/-- a page whose `items` key is absent counts as empty, a `next` that fails to load ends the
    harvest with an error item -/
example : Harvest (fun _ => none) (fuelBound 3) ⟨[], some .absent, (7 : Nat), none⟩ 3 0 =
    some (.ok ([(Out.failLoad : Out Char)], none, 0)) := by
  rfl
end

end GenT10
