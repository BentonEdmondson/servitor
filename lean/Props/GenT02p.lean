import Model
import Generated.GoNavigate
import Props.C02
import Props.C09
import Props.Gen02p
import Props.GenT02n

/-
  C02 and C09 stated directly about `Parents` as translated from pub/post.go and
  pub/activity.go (`Generated/GoNavigate.lean`): the ancestors a thread view shows above a post
  are each built from JSON the host in its id served (embedded in the reply and kept only under
  the same host, re-fetched from the URL in its id otherwise), there are at most `quantity` of
  them, and the chain is the chain of `inReplyTo`.  The model appears only in the vocabulary of
  the specification (`ItemOk`, `PostOk`, `Served`).
-/

namespace GenT02p
open Pub GenNavigate GenListing Gen02n Gen02p

/-- C09 on the code: **at most `quantity` parents**, for a post and for an activity. -/
theorem parents_bounded (w : World) (P : Pres) (hP : P.Agrees w) (q : Nat) (p : PostM) :
    ∃ r, Post.Parents (libs w) (ext w P) p q = .ok r ∧ r.1.length ≤ q := by
  obtain ⟨r, hr, h1, _⟩ := post_parents_eq w P hP q p
  refine ⟨r, hr, ?_⟩
  rw [← List.length_map (f := Gen09.toItem), h1]
  exact C09.parents_bounded w q p

theorem activity_parents_bounded (w : World) (P : Pres) (hP : P.Agrees w) (q : Nat) (a : ActivityM) :
    ∃ r, Activity.Parents (libs w) (ext w P) a q = .ok r ∧ r.1.length ≤ q := by
  obtain ⟨r, hr, h⟩ := activity_parents_eq w P hP q a
  have h1 : r.1.map Gen09.toItem = (Ui.parentsOf w q (.activity a)).1 := congrArg Prod.fst h
  refine ⟨r, hr, ?_⟩
  rw [← List.length_map (f := Gen09.toItem), h1]
  simp only [Ui.parentsOf]
  cases a.target with
  | post p => exact C09.parents_bounded w q p
  | _ => exact Nat.zero_le _

theorem model_parents_ok (w : World) (q : Nat) (p : PostM) (hp : C02aux.PostOk w p) :
    (∀ x ∈ (parents w q p).1, C02aux.ItemOk w x) ∧
    (∀ f, (parents w q p).2 = some f → C02aux.PostOk w f) := by
  fun_induction parents w q p with
  | case1 | case3 => exact ⟨(fun _ h => nomatch h), fun _ h => nomatch h⟩
  | case2 => exact ⟨(fun _ h => nomatch h), fun f h => by cases h; exact hp⟩
  | case4 | case5 => exact ⟨fun x h => by cases List.mem_singleton.1 h; trivial, fun _ h => nomatch h⟩
  | case6 p o id hpar parent hb =>
    -- the parent was loaded with the reply's id as source: the reply's invariant covers it
    have hok : C02aux.PostOk w parent :=
      C02aux.postFromObject_ok (fun s hs => hp.2.2.2 o s (hs ▸ hpar)) hb
    exact ⟨fun x h => by cases List.mem_singleton.1 h; exact hok, fun f h => by cases h; exact hok⟩
  | case7 q p o id hpar parent hb _ _ ih =>
    have hok : C02aux.PostOk w parent :=
      C02aux.postFromObject_ok (fun s hs => hp.2.2.2 o s (hs ▸ hpar)) hb
    exact ⟨fun x h => by rcases List.mem_cons.1 h with rfl | h; exact hok; exact (ih hok).1 x h, (ih hok).2⟩

/-- C02 on the code: **every parent `Post.Parents` as translated lists, and the frontier it
    hands back, was built from JSON served by the host in its id** — for a post that itself
    satisfies the build invariant (every post `pub.New` builds does: `new_then_parents`). -/
theorem parents_provenance (w : World) (P : Pres) (hP : P.Agrees w) (q : Nat) (p : PostM)
    (hp : C02.PostOk w p) :
    ∃ r, Post.Parents (libs w) (ext w P) p q = .ok r ∧
      (∀ t ∈ r.1, C02.ItemOk w (Gen09.toItem t)) ∧
      (∀ t, r.2 = some t → C02.ItemOk w (Gen09.toItem t)) := by
  obtain ⟨r, hr, h1, h2⟩ := post_parents_eq w P hP q p
  obtain ⟨m1, m2⟩ := model_parents_ok w q p (C02.postOk_iff.1 hp)
  refine ⟨r, hr, fun t ht => ?_, fun t ht => ?_⟩
  · exact C02.itemOk_iff.2 (m1 _ (h1 ▸ List.mem_map_of_mem ht))
  · obtain ⟨f, hf, rfl⟩ := Option.map_eq_some_iff.1 (h2 ▸ ht)
    exact C02.itemOk_iff.2 (m2 f hf)

/-- `parents_provenance` composed with `GenT02n.new_provenance`: a post `pub.New` as translated
    builds from an input that satisfies the calling convention has only parents built from JSON
    served by the host in their id, whatever the quantity. -/
theorem new_then_parents (w : World) (P : Pres) (hP : P.Agrees w) (input : JVal) (source : Option U)
    (hpre : C02.Pre w input source) (p : PostM)
    (hn : GenNewitem.New (libs w) (ext w P) input source = .ok (Any.post p)) (q : Nat) :
    ∃ r, Post.Parents (libs w) (ext w P) p q = .ok r ∧ r.1.length ≤ q ∧
      (∀ t ∈ r.1, C02.ItemOk w (Gen09.toItem t)) ∧
      (∀ t, r.2 = some t → C02.ItemOk w (Gen09.toItem t)) := by
  obtain ⟨a, ha, hok⟩ := GenT02n.new_provenance w P hP input source hpre
  cases hn.symm.trans ha
  obtain ⟨r, hr, h1, h2⟩ := parents_provenance w P hP q p hok
  obtain ⟨r', hr', hl⟩ := parents_bounded w P hP q p
  cases hr.symm.trans hr'
  exact ⟨r, hr, hl, h1, h2⟩

/-- **The nearest parent is the document `inReplyTo` names**: when the first entry is a post, it
    was built from the object the reply's constructor loaded for `inReplyTo` (with the reply's id
    as source, unit newitem) and carries the id accepted there; nothing else is handed on. -/
theorem first_parent_is_reply_target (w : World) (P : Pres) (hP : P.Agrees w) (q : Nat) (p parent : PostM)
    (rest : List Tangible) (front : Option Tangible)
    (h : Post.Parents (libs w) (ext w P) p q = .ok (.post parent :: rest, front)) :
    ∃ o id, p.parent = .ok (o, id) ∧ parent.obj = o ∧ parent.id = id := by
  obtain ⟨r, hr, h1, _⟩ := post_parents_eq w P hP q p
  cases h.symm.trans hr
  -- by the cases of the model's `parents`: only where a parent was built does the list begin with a post
  fun_induction parents w q p with
  | case1 | case2 | case3 | case4 | case5 => cases h1
  | case6 p o id hpar c hb | case7 _ p o id hpar c hb =>
    cases Item.post.inj (List.cons.inj h1).1
    obtain ⟨hi, ho, _⟩ := C09aux.newPostFromObject_inv hb
    exact ⟨o, id, hpar, ho, hi⟩

/-- A reply whose constructor loaded a parent (a note that is itself no reply). -/
def demoReply : PostM where
  kind := "Note".toList
  id := none
  title := .error .absent
  parent := .ok ([("type".toList, .str "Note".toList)], none)
  creators := []
  recipients := []
  comments := .error .absent
  obj := []

/-- The translated `Parents` does list a parent and does stop: one parent, and with a quantity
    of two no frontier remains (the parent is no reply), with a quantity of one the parent is the
    frontier, with a quantity of zero the reply itself. -/
example : ∃ r2 r1 r0,
    Post.Parents (libs GenT02.demoWorld) (ext GenT02.demoWorld GenT02n.demoPres) demoReply 2 = .ok r2 ∧
    Post.Parents (libs GenT02.demoWorld) (ext GenT02.demoWorld GenT02n.demoPres) demoReply 1 = .ok r1 ∧
    Post.Parents (libs GenT02.demoWorld) (ext GenT02.demoWorld GenT02n.demoPres) demoReply 0 = .ok r0 ∧
    r2.1.length = 1 ∧ r2.2 = none ∧ r1.1.length = 1 ∧ r1.2.isSome = true ∧
    r0 = ([], some (.post demoReply)) := by
  obtain ⟨r2, h2, a2, b2⟩ := post_parents_eq GenT02.demoWorld GenT02n.demoPres GenT02n.demoPres_agrees 2 demoReply
  obtain ⟨r1, h1, a1, b1⟩ := post_parents_eq GenT02.demoWorld GenT02n.demoPres GenT02n.demoPres_agrees 1 demoReply
  obtain ⟨r0, h0, a0, b0⟩ := post_parents_eq GenT02.demoWorld GenT02n.demoPres GenT02n.demoPres_agrees 0 demoReply
  -- the model's chains, evaluated by the kernel alone
  have m2 : (parents GenT02.demoWorld 2 demoReply).1.length = 1 ∧ (parents GenT02.demoWorld 2 demoReply).2.isNone = true := by
    decide +kernel
  have m1 : (parents GenT02.demoWorld 1 demoReply).1.length = 1 ∧ (parents GenT02.demoWorld 1 demoReply).2.isSome = true := by
    decide +kernel
  have m0 : parents GenT02.demoWorld 0 demoReply = ([], some demoReply) := rfl
  refine ⟨r2, r1, r0, h2, h1, h0, ?_, ?_, ?_, ?_, ?_⟩
  · rw [← m2.1, ← a2, List.length_map]
  · rw [b2, Option.isNone_iff_eq_none.1 m2.2]; rfl
  · rw [← m1.1, ← a1, List.length_map]
  · rw [b1, Option.isSome_map]; exact m1.2
  · rw [m0] at a0 b0
    obtain ⟨l, f⟩ := r0
    simp only [List.map_eq_nil_iff] at a0
    simp only at b0
    rw [a0, b0]
    rfl

end GenT02p
