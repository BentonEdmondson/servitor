import Props.C01p
import Props.Gen01p
import Props.GenT17

/-
  C01 (and, of C14, that no attribute is left active at a line break) on the TRANSLATED item
  presentation, by transport: `Props/Gen01p.lean` says that the translated `String` / `Preview` / `Name` of Post, Actor,
  Activity, Failure (`Generated/GoPresent.lean`, regenerated from pub/*.go on every run) compute
  what the presentation model computes; `Props/C01p.lean` says that what the model computes is
  `Clean` (printable characters, newlines, the program's own complete SGR sequences around single
  characters — hence terminal-safe and attribute-neutral at every line break) for every field
  content.  Hence: the translated functions return (they do not panic) and what they return is
  `Clean`, for every content of the fields — every error text in particular —, every width and
  all well-formed colours; a post's preview has at most as many lines as the constant the source
  hands to `ansi.Snip` (4).
-/

namespace GenT01p
open Str Ansi Cells Present GenPresent Gen13 Gen01p

variable {Time : Type}

/-- The translated `Post.String(width)` returns, and returns clean text. -/
theorem post_string_clean (c : Colors) (hc : ColorsOk c) (T : Go.TimeLib Time) (E : Obj.Err → Str) (p : Post Time) (v : PostV)
    (h : PostCorr c T E p v) (hv : C01p.PostOk v) (w : Int) :
    ∃ out, Post.String c goExpand T E p w = .ok out ∧ Clean out :=
  ⟨_, (post_eq c T E p v h w).1, C01p.post_string_clean c hc v hv w⟩

/-- The translated `Post.Preview(width)` returns clean text of at most four lines. -/
theorem post_preview_clean (c : Colors) (hc : ColorsOk c) (T : Go.TimeLib Time) (E : Obj.Err → Str) (p : Post Time) (v : PostV)
    (h : PostCorr c T E p v) (hv : C01p.PostOk v) (w : Int) :
    ∃ out, Post.Preview c goExpand T E p w = .ok out ∧ Clean out ∧ Ansi.height out ≤ 4 := by
  obtain ⟨out, ho, hcl, hh⟩ := C01p.post_preview_clean c hc v hv w
  exact ⟨out, (post_eq c T E p v h w).2.1.trans ho, hcl, hh⟩

/-- The translated `Post.Name()` returns clean text. -/
theorem post_name_clean (c : Colors) (hc : ColorsOk c) (T : Go.TimeLib Time) (E : Obj.Err → Str) (p : Post Time) (v : PostV)
    (h : PostCorr c T E p v) (hv : C01p.PostOk v) :
    ∃ out, Post.Name c goExpand T E p = .ok out ∧ Clean out :=
  ⟨_, (post_eq c T E p v h 0).2.2, C01p.post_name_clean c hc v hv⟩

/-- What the translated `Post.String(width)` returns is terminal-safe, with no attribute left active at
    a line break. -/
theorem post_string_safe (c : Colors) (hc : ColorsOk c) (T : Go.TimeLib Time) (E : Obj.Err → Str) (p : Post Time) (v : PostV)
    (h : PostCorr c T E p v) (hv : C01p.PostOk v) (w : Int) :
    ∃ out, Post.String c goExpand T E p w = .ok out ∧ Safe.safe out = true ∧ neutralAtBreaks out = true := by
  obtain ⟨out, ho, hcl⟩ := post_string_clean c hc T E p v h hv w
  exact ⟨out, ho, CleanProps.clean_safe _ hcl, CleanProps.clean_neutral _ hcl⟩

theorem actor_name_clean (c : Colors) (hc : ColorsOk c) (T : Go.TimeLib Time) (E : Obj.Err → Str) (a : Actor Time) (v : ActorV)
    (h : ActorCorr c T a v) (hv : C01p.ActorOk v) :
    ∃ out, Actor.Name c goExpand T E a = .ok out ∧ Clean out :=
  ⟨_, actor_name_eq c T E a v h, C01p.actor_name_clean c hc v hv⟩

theorem actor_string_clean (c : Colors) (hc : ColorsOk c) (T : Go.TimeLib Time) (E : Obj.Err → Str) (a : Actor Time) (v : ActorV)
    (h : ActorCorr c T a v) (hv : C01p.ActorOk v) (w : Int) :
    ∃ out, Actor.String c goExpand T E a w = .ok out ∧ Clean out :=
  ⟨_, actor_string_eq c T E a v h w, C01p.actor_string_clean c hc v hv w⟩

theorem actor_preview_clean (c : Colors) (hc : ColorsOk c) (T : Go.TimeLib Time) (E : Obj.Err → Str) (a : Actor Time) (v : ActorV)
    (h : ActorCorr c T a v) (hv : C01p.ActorOk v) (w : Int) :
    ∃ out, Actor.Preview c goExpand T E a w = .ok out ∧ Clean out := by
  obtain ⟨out, ho, hcl⟩ := C01p.actor_preview_clean c hc v hv w
  exact ⟨out, (actor_preview_eq c T E a v h w).trans ho, hcl⟩

theorem failure_clean (c : Colors) (hc : ColorsOk c) (T : Go.TimeLib Time) (E : Obj.Err → Str) (x : Go.ErrV) (w : Int) :
    (∃ out, Failure.Name c goExpand T E ⟨some x⟩ = .ok out ∧ Clean out) ∧
    (∃ out, Failure.String c goExpand T E ⟨some x⟩ w = .ok out ∧ Clean out) ∧
    (∃ out, Failure.Preview c goExpand T E ⟨some x⟩ w = .ok out ∧ Clean out) :=
  ⟨⟨_, failure_name_eq c T E x, (C01p.failure_clean c hc x.text w).1⟩,
   ⟨_, failure_string_eq c T E x w, (C01p.failure_clean c hc x.text w).2⟩,
   ⟨_, failure_preview_eq c T E x w, (C01p.failure_clean c hc x.text w).2⟩⟩

/-- `style.Problem` on the translated code: clean for every error text. -/
theorem problem_clean (c : Colors) (hc : ColorsOk c) (T : Go.TimeLib Time) (E : Obj.Err → Str) (x : Go.ErrV) :
    ∃ out, Problem c goExpand T E (some x) = .ok out ∧ Clean out :=
  ⟨_, problem_eq c goExpand T E x, PresentP.clean_problem c hc x.text⟩

/-- What the activity header shows for the actor is clean: a problem text always, a name when
    the actor's strings are (as `GetString` leaves them). -/
theorem actorShown_clean (c : Colors) (hc : ColorsOk c) (T : Go.TimeLib Time) (E : Obj.Err → Str) (actor : Option (Actor Time))
    (actorErr : Go.ErrorV) (n : Str) (ha : ActorShown c T E actor actorErr n)
    (hok : ∀ a v, actor = some a → ActorCorr c T a v → C01p.ActorOk v) : Clean n := by
  cases ha with
  | err actor x => exact PresentP.clean_problem c hc x.text
  | ok a v h => exact C01p.actor_name_clean c hc v (hok a v rfl h)

/-- The translated `Activity.String(width)` is clean when its target's `String(width)` is. -/
theorem activity_string_clean (c : Colors) (hc : ColorsOk c) (T : Go.TimeLib Time) (E : Obj.Err → Str) (kind : Str)
    (actor : Option (Actor Time)) (actorErr : Go.ErrorV) (created : Time) (createdErr : Go.ErrorV) (target : Tangible Time)
    (w : Int) (actorName s : Str) (hk : knownKind kind) (ha : ActorShown c T E actor actorErr actorName)
    (hn : Clean actorName) (ht : Tangible.String c goExpand T E target w = .ok s) (hs : Clean s) :
    ∃ out, Activity.String c goExpand T E (.mk kind actor actorErr created createdErr target) w = .ok out ∧ Clean out :=
  ⟨_, activity_string_eq c T E kind actor actorErr created createdErr target w actorName s hk ha ht,
    C01p.activity_clean c hc kind actorName s w hn hs⟩

theorem activity_preview_clean (c : Colors) (hc : ColorsOk c) (T : Go.TimeLib Time) (E : Obj.Err → Str) (kind : Str)
    (actor : Option (Actor Time)) (actorErr : Go.ErrorV) (created : Time) (createdErr : Go.ErrorV) (target : Tangible Time)
    (w : Int) (actorName s : Str) (hk : knownKind kind) (ha : ActorShown c T E actor actorErr actorName)
    (hn : Clean actorName) (ht : Tangible.Preview c goExpand T E target w = .ok s) (hs : Clean s) :
    ∃ out, Activity.Preview c goExpand T E (.mk kind actor actorErr created createdErr target) w = .ok out ∧ Clean out :=
  ⟨_, activity_preview_eq c T E kind actor actorErr created createdErr target w actorName s hk ha ht,
    C01p.activity_clean c hc kind actorName s w hn hs⟩

/-- `PostOk.title`, `ActorOk.name`, `ActorOk.handle`, `PostOk.kind` ask that the strings the
    constructors read with `GetString` have no control character: the translated `GetString`
    (`Generated/GoObject.lean`) returns only such strings (it scrubs what it read). -/
theorem getString_noCtl {Time Url : Type} (L : Obj.Libs Time Url) (o : List (Str × JVal)) (k v : Str)
    (h : GenObject.GetString L o k = .ok v) : Safe.noCtl v = true := by
  obtain ⟨s, _, hv, _⟩ := (GenT17.getString_ok L o k v).1 h
  rw [hv]
  exact CleanProps.scrub_noCtl s

/-- Colours as config.go leaves them: three decimal numbers separated by `;`. -/
def exColors : Colors := ⟨"0;0;255".toList, "255;0;0".toList, "60;60;0".toList, "40;40;40".toList⟩

def exTime : Go.TimeLib Nat := ⟨fun _ _ => "1 Jan 2024".toList, fun _ => "seconds ago".toList, 0⟩

/-- A post whose title could not be read (an error text with an escape sequence and a bell in
    it), a reply, without body, attachments or comments. -/
def exPost : Post Nat :=
  .mk "Note".toList [] (some ⟨false, [Char.ofNat 27, '[', '2', 'J', Char.ofNat 7, 'x']⟩) none []
    (some ⟨true, "key not present".toList⟩) 0 (some ⟨true, "key not present".toList⟩) none []
    (some ⟨true, "key not present".toList⟩) [] [] none (some ⟨true, "key not present".toList⟩)

def exPostV : PostV :=
  { kind := "Note".toList, title := .err [Char.ofNat 27, '[', '2', 'J', Char.ofNat 7, 'x'],
    body := .absent "key not present".toList, bodyLinks := [], isReply := true, creators := [], recipients := [],
    created := .absent "key not present".toList, agoZero := "seconds ago".toList,
    attachments := .absent "key not present".toList, comments := .disabled }

theorem exCorr : PostCorr exColors exTime (fun _ => "e".toList) exPost exPostV :=
  { hKind := rfl, hTitle := rfl, hBody := ⟨fun x hx => (by cases hx; rfl), fun hx => (by cases hx)⟩, hBodyLinks := rfl,
    hIsReply := rfl, hCreators := trivial, hRecipients := trivial, hCreated := rfl, hAgoZero := rfl,
    hAttachments := rfl, hComments := rfl, hCommentsNonNil := fun hx => (by cases hx) }

/-- The correspondence is inhabited, the hypotheses of the theorems hold of it, and the translated
    `Name()` is the scrubbed error text in the error colour: the escape and the bell are gone. -/
example : PostCorr exColors exTime (fun _ => "e".toList) exPost exPostV ∧ C01p.PostOk exPostV ∧ ColorsOk exColors ∧
    Post.Name exColors goExpand exTime (fun _ => "e".toList) exPost = .ok (Style.red exColors "[2Jx".toList) := by
  refine ⟨exCorr, ?ok, ⟨by decide +kernel, by decide +kernel, by decide +kernel, by decide +kernel⟩, ?name⟩
  case ok =>
    exact { kind := (by decide +kernel), title := fun t h => (by cases h), body := fun b h => (by cases h),
            creators := fun n h => (by cases h), recipients := fun n h => (by cases h),
            created := fun a h => (by cases h), agoZero := (by decide +kernel),
            attachments := fun as h => (by cases h), size := fun n h => (by cases h) }
  case name =>
    rw [(post_eq exColors exTime (fun _ => "e".toList) exPost exPostV exCorr 0).2.2]
    exact congrArg Except.ok (by decide +kernel)

end GenT01p
