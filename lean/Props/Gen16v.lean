import Model.Ui
import Generated.GoView
import Props.Gen16
import Props.Gen18
import Proofs.Gen16v

/-
  The tie by translation for C16, above the layout functions: `(*State).view` of ui/ui.go — the
  function that builds every frame — is translated from the source on every run
  (`extract/go2lean12.go` → `Generated/GoView.lean`, namespace `GenView`).  The theorems below say
  the translated code computes what the hand-written model says a frame is: `Ui.frame` applied to
  the three parts `Ui.viewParts` computes (the walk over the feed from `first` to `last`, the two
  `Loading…` lines, one trailing newline trimmed) and to the footer `Ui.footerOf` gives the mode.

  The equality holds with no side condition while `CenterVertically` is the translated one
  (`view_eqT`); the sizes a Go string can have, which `Props/Gen16.lean` needs for `CenterVertically`,
  come in with `view_eq`.

  A translated state is any value of `GenView.State`; what the model needs of it is read off by
  `curOf` / `pageView` (the feed's four fields are the model feed's four fields) and `modeNum`.
  The items are the translated `Tangible`s: two arbitrary functions `Int → Str`.
-/

namespace Gen16v
open Ui

/-- The modes as the `const` block numbers them. -/
def modeNum : Mode → Int
  | .loading => GenView.loading
  | .normal => GenView.normal
  | .command => GenView.command
  | .selection => GenView.selection
  | .opening => GenView.opening
  | .problem => GenView.problem

def tangible : Render GenView.Tangible := ⟨fun t => t.String, fun t => t.Preview⟩

def pageView (p : GenView.Page) : PageView GenView.Tangible :=
  ⟨⟨p.feed.feed, p.feed.upperBound, p.feed.lowerBound, p.feed.index⟩, p.loadingUp, p.loadingDown⟩

/-- `Ui.frame` with the translated `CenterVertically` in place of the model's. -/
def frameT (c : Colors) (top center bottom : Str) (footer : Option Str) (width : Int) (height : Nat) :
    Except Panic Str :=
  match GenAnsi.CenterVertically top center bottom height with
  | .error e => .error e
  | .ok out =>
    match footer with
    | none => .ok out
    | some f =>
      match Ansi.setLength f width ['…'] with
      | .error e => .error e
      | .ok t => Ansi.replaceLastLine out (Style.highlight c t)

def footerFor (m : Mode) (buffer : Str) : Option Str := footerOf { mode := m, buffer := buffer, context := 0 }

/-- `frameT` in the shape the translation of `view` gives its last step. -/
theorem frameT_do (c : Colors) (t ce b : Str) (footer : Option Str) (w : Int) (h : Nat) :
    frameT c t ce b footer w h = (do
      let out ← GenAnsi.CenterVertically t ce b h
      match footer with
      | none => return out
      | some f => do
        let line ← Ansi.setLength f w ['…']
        Ansi.replaceLastLine out (Style.highlight c line)) := by
  unfold frameT
  cases GenAnsi.CenterVertically t ce b h with
  | error e => rfl
  | ok out =>
    cases footer with
    | none => rfl
    | some f => simp only [ok_bind]; cases Ansi.setLength f w ['…'] <;> rfl

theorem modeNum_ne_loading {m : Mode} (hl : m ≠ .loading) : modeNum m ≠ GenView.loading := by
  cases m <;> first | exact absurd rfl hl | decide

/-- Outside loading mode, with a current page: the three loops are the model's walk, the rest is
    `frameT`. -/
theorem view_walk (c : Colors) (ctx : Int) (g : GenView.State) (p : GenView.Page) (m : Mode)
    (hcur : GenHistory.Current g.h = .ok p) (hm : g.mode = modeNum m) (hl : m ≠ .loading) :
    GenView.view c ctx g =
      match parts c tangible (pageView p) ctx g.width with
      | .error e => .error e
      | .ok v => frameT c v.1 v.2.1 v.2.2 (footerFor m g.buffer) g.width (Go.toUint g.height) := by
  obtain ⟨gf, up, down⟩ := p
  obtain ⟨f, rfl⟩ := Gen18.toGenF_surjective gf
  have hm' : g.mode ≠ GenView.loading := hm ▸ modeNum_ne_loading hl
  have hC : ∀ o, GenFeed.Contains (Gen18.toGenF f) o = pure (Feed.contains f o) := fun _ => rfl
  rw [show pageView ⟨Gen18.toGenF f, up, down⟩ = ⟨f, up, down⟩ from rfl]
  simp only [parts]
  unfold GenView.view
  simp only [hm', decide_false, Bool.false_eq_true, if_false, hcur, ok_bind, pure_bind, bind_pure, hC, land_pure,
    Go.budget, Int.sub_neg, Int.zero_add, Int.sub_zero, countUp_eq_offsets, Gen16.str_empty]
  rw [up_loop f ctx _ 0 (by rw [Int.zero_add]), pure_bind, down_loop f ctx _ 0 (by rw [Int.sub_zero]), pure_bind,
    parts_loop tangible f g.width _ ?step]
  · -- The literals stay under `Go.str` (the model's `"…".toList` are folded into it): deciding
    -- `… ≠ []` on an unfolded literal makes `simp` evaluate it character by character.
    have hstr : ∀ s : String, s.toList = Go.str s := fun _ => rfl
    have hnil : ∀ s : String, Go.str s = [] ↔ s = "" := fun _ => String.toList_eq_nil_iff
    have hcolon : Go.str ":" = [':'] := rfl
    have hell : Go.str "…" = ['…'] := rfl
    generalize foldParts _ _ _ _ _ = fp
    cases fp with
    | error e => rfl
    | ok v =>
      obtain ⟨t, ce, b⟩ := v
      simp only [ok_bind, hm, Go.Strings.trimSuffix, hcolon, hell, footerFor, footerOf, Gen16.setLength_eq,
        Gen16.replaceLastLine_eq, frameT_do, hstr]
      -- `view` branches on the two `Loading…` lines where `parts` chooses the text.
      generalize (up && !Feed.contains _ (-ctx - 1)) = c1
      generalize (down && !Feed.contains _ (ctx + 1)) = c2
      cases m with
      | loading => exact absurd rfl hl
      | problem =>
        simp only [modeNum, GenView.normal, GenView.selection, GenView.command, GenView.opening, GenView.problem,
          Int.reduceEq, decide_true, decide_false, Bool.false_eq_true, ↓reduceIte]
        cases g.buffer <;> cases c1 <;> cases c2 <;> rfl
      | _ =>
        simp only [modeNum, GenView.normal, GenView.selection, GenView.command, GenView.opening, Int.reduceEq,
          decide_true, decide_false, Bool.false_eq_true, ↓reduceIte, ne_eq, not_true_eq_false,
          List.append_eq_nil_iff, hnil, String.reduceEq, false_and, not_false_eq_true, List.cons_append,
          List.nil_append, reduceCtorEq]
        cases c1 <;> cases c2 <;> rfl
  · intro i a
    simp only [Gen18.isParent_eq, Gen18.isChild_eq, Gen18.get_eq, ok_bind, partsStep, Feed.get]
    generalize Feed.contains f i = cn
    generalize Feed.isParent f i = pa
    generalize Feed.isChild f i = ch
    cases cn
    · rfl
    · cases f.feed (f.index + i) with
      | none => cases pa <;> cases ch <;> rfl
      | some x =>
        by_cases h0 : i = 0 <;> by_cases hn : i < 0 <;>
          simp only [h0, hn, decide_true, decide_false, Bool.not_true, Bool.false_eq_true, ↓reduceIte, ok_bind,
            Go.deref] <;>
          cases pa <;> cases ch <;> rfl

/-- Outside loading mode, an empty history: `Current()` panics whatever the context is (for a
    context ≤ 0 the two scanning loops are skipped and the walk's first `Contains` is reached). -/
theorem view_nopage (c : Colors) (ctx : Int) (g : GenView.State) (e : Panic)
    (hcur : GenHistory.Current g.h = .error e) (hm : g.mode ≠ GenView.loading) :
    GenView.view c ctx g = .error e := by
  unfold GenView.view
  simp only [hm, decide_false, Bool.false_eq_true, if_false, hcur, error_bind, Go.budget, Int.sub_neg, Int.zero_add,
    Int.sub_zero]
  cases hn : ctx.toNat with
  | zero =>
    simp only [List.replicate_zero, List.forIn_nil, pure_bind]
    rw [show Go.countUp 0 (0 + 1) = [0] from rfl, forIn_error _ e _ _ _ rfl]
    rfl
  | succ n =>
    have hpos : decide ((0 : Int) > -ctx) = true := decide_eq_true (by omega)
    rw [List.replicate_succ, forIn_error _ e _ _ _ (by rw [hpos]; rfl)]
    rfl

/-- What `view` reads of the current page of a translated state (`Current()` panics on an empty
    history). -/
def curOf (g : GenView.State) : Except Panic (PageView GenView.Tangible) :=
  match GenHistory.Current g.h with
  | .error e => .error e
  | .ok p => .ok (pageView p)

/-- In loading mode the history is not looked at. -/
theorem view_loading (c : Colors) (ctx : Int) (g : GenView.State) (hm : g.mode = GenView.loading) :
    GenView.view c ctx g
      = GenAnsi.CenterVertically [] (Style.color c "  Loading…".toList) [] (Go.toUint g.height) := by
  unfold GenView.view
  simp only [hm, decide_true, ↓reduceIte]
  rfl

/-- The translated `view` is the model's, up to the translated `CenterVertically` (no bound on
    sizes needed): every mode, every history, every feed, every pair of flags. -/
theorem view_eqT (c : Colors) (ctx : Int) (g : GenView.State) (m : Mode) (hm : g.mode = modeNum m) :
    GenView.view c ctx g =
      match viewParts c tangible m (curOf g) ctx g.width with
      | .error e => .error e
      | .ok v => frameT c v.1 v.2.1 v.2.2 (footerFor m g.buffer) g.width (Go.toUint g.height) := by
  by_cases hl : m = .loading
  · subst hl
    rw [view_loading c ctx g hm]
    simp only [viewParts, if_true, frameT, footerFor, footerOf]
    cases GenAnsi.CenterVertically [] (Style.color c "  Loading…".toList) [] (Go.toUint g.height) <;> rfl
  · simp only [viewParts, hl, if_false, curOf]
    cases hcur : GenHistory.Current g.h with
    | error e => exact view_nopage c ctx g e hcur (hm ▸ modeNum_ne_loading hl)
    | ok p => exact view_walk c ctx g p m hcur hm hl

theorem toUint_small (h : Int) (h0 : 0 ≤ h) (h62 : h < 2 ^ 62) :
    Go.toUint h = h.toNat ∧ h.toNat < 2 ^ 62 := by
  unfold Go.toUint
  omega

/-- With sizes a Go string can have, `frameT` is the model's `frame`. -/
theorem frameT_eq (c : Colors) (t ce b : Str) (footer : Option Str) (width : Int) (h : Nat)
    (ht : t.length < 2 ^ 62) (hce : ce.length < 2 ^ 62) (hb : b.length < 2 ^ 62) (hh : h < 2 ^ 62) :
    frameT c t ce b footer width h = frame c t ce b footer width h := by
  simp only [frameT, frame, Gen16.centerVertically_eq t ce b h ht hce hb hh]
  cases footer with
  | none => rfl
  | some f => cases Ansi.setLength f width ['…'] <;> rfl

/-- **The translated `view` is the model's `viewOf`**: `Ui.frame` applied to the three parts the
    model computes (`Ui.viewParts`), with the footer `Ui.footerOf` gives the mode — for every
    translated state whose mode is one of the six declared ones, every context, provided the
    height is a terminal height (0 ≤ height < 2^62) and the three parts are shorter than 2^62
    characters (a Go string cannot be longer). -/
theorem view_eq (c : Colors) (ctx : Int) (g : GenView.State) (m : Mode) (hm : g.mode = modeNum m)
    (h0 : 0 ≤ g.height) (h62 : g.height < 2 ^ 62)
    (hsz : ∀ t ce b, viewParts c tangible m (curOf g) ctx g.width = .ok (t, ce, b) →
      t.length < 2 ^ 62 ∧ ce.length < 2 ^ 62 ∧ b.length < 2 ^ 62) :
    GenView.view c ctx g = viewOf c tangible m (footerFor m g.buffer) (curOf g) ctx g.width g.height := by
  rw [view_eqT c ctx g m hm]
  unfold viewOf
  cases hp : viewParts c tangible m (curOf g) ctx g.width with
  | error e => rfl
  | ok v =>
    obtain ⟨t, ce, b⟩ := v
    obtain ⟨ht, hce, hb⟩ := hsz t ce b hp
    obtain ⟨hu, hh⟩ := toUint_small g.height h0 h62
    exact frameT_eq c t ce b _ g.width _ ht hce hb (hu ▸ hh)

/-- In particular: a frame is `Ansi.centerVertically top center bottom height`, followed by at most
    one `ReplaceLastLine` (or the panic the model predicts). -/
theorem view_is_centered (c : Colors) (ctx : Int) (g : GenView.State) (m : Mode) (hm : g.mode = modeNum m)
    (h0 : 0 ≤ g.height) (h62 : g.height < 2 ^ 62)
    (hsz : ∀ t ce b, viewParts c tangible m (curOf g) ctx g.width = .ok (t, ce, b) →
      t.length < 2 ^ 62 ∧ ce.length < 2 ^ 62 ∧ b.length < 2 ^ 62) :
    (∃ e, GenView.view c ctx g = .error e) ∨
    ∃ t ce b, viewParts c tangible m (curOf g) ctx g.width = .ok (t, ce, b) ∧
      (GenView.view c ctx g = .ok (Ansi.centerVertically t ce b g.height.toNat) ∨
       ∃ line, GenView.view c ctx g
         = Ansi.replaceLastLine (Ansi.centerVertically t ce b g.height.toNat) line) := by
  rw [view_eq c ctx g m hm h0 h62 hsz]
  unfold viewOf
  cases hp : viewParts c tangible m (curOf g) ctx g.width with
  | error e => exact .inl ⟨e, rfl⟩
  | ok v =>
    obtain ⟨t, ce, b⟩ := v
    rw [(toUint_small g.height h0 h62).1]
    cases hf : footerFor m g.buffer with
    | none => exact .inr ⟨t, ce, b, rfl, .inl (by simp only [frame])⟩
    | some f =>
      cases hs : Ansi.setLength f g.width ['…'] with
      | error e => exact .inl ⟨e, by simp only [frame, hs]⟩
      | ok line => exact .inr ⟨t, ce, b, rfl, .inr ⟨Style.highlight c line, by simp only [frame, hs]⟩⟩

/-- Every translated state whose mode is a declared one is covered by `view_eq`: the mode numbers
    are exactly 0 … 5. -/
theorem modeNum_surjective (k : Int) (h0 : 0 ≤ k) (h5 : k ≤ 5) : ∃ m, k = modeNum m := by
  have : k = 0 ∨ k = 1 ∨ k = 2 ∨ k = 3 ∨ k = 4 ∨ k = 5 := by omega
  rcases this with h | h | h | h | h | h <;> subst h
  · exact ⟨.loading, rfl⟩
  · exact ⟨.normal, rfl⟩
  · exact ⟨.command, rfl⟩
  · exact ⟨.selection, rfl⟩
  · exact ⟨.opening, rfl⟩
  · exact ⟨.problem, rfl⟩

/-! ### The model's states

  The same equality read from the model's side: a state of `Model/Ui.lean` (`Ui.State`, items are
  `Pub.Item`s), a renderer for its items, the two loading flags and a terminal size determine a
  translated state (`genState`); the translated `view` of it is the model's `Ui.view`. -/

variable {α : Type}

def renderFeed (r : Render α) (f : Feed.F α) : Feed.F GenView.Tangible :=
  ⟨fun i => (f.feed i).map fun x => ⟨r.preview x, r.string x⟩, f.upper, f.lower, f.index⟩

theorem walkUp_render (r : Render α) (f : Feed.F α) (n : Nat) (x : Int) :
    walkUp (renderFeed r f) n x = walkUp f n x := by
  induction n generalizing x with
  | zero => rfl
  | succ n ih => simp only [walkUp, ih]; rfl

theorem walkDown_render (r : Render α) (f : Feed.F α) (n : Nat) (x : Int) :
    walkDown (renderFeed r f) n x = walkDown f n x := by
  induction n generalizing x with
  | zero => rfl
  | succ n ih => simp only [walkDown, ih]; rfl

theorem partsStep_render (r : Render α) (f : Feed.F α) (w : Int) (acc : Str × Str × Str) (i : Int) :
    partsStep tangible (renderFeed r f) w acc i = partsStep r f w acc i := by
  have hc : Feed.contains (renderFeed r f) i = Feed.contains f i := rfl
  have hp : Feed.isParent (renderFeed r f) i = Feed.isParent f i := rfl
  have hch : Feed.isChild (renderFeed r f) i = Feed.isChild f i := rfl
  simp only [partsStep, hc, hp, hch, Feed.get]
  rcases Bool.eq_false_or_eq_true (Feed.contains f i) with h | h
  · simp only [h, Bool.not_true, Bool.false_eq_true, if_false]
    have hfeed : (renderFeed r f).feed ((renderFeed r f).index + i)
        = (f.feed (f.index + i)).map fun x => (⟨r.preview x, r.string x⟩ : GenView.Tangible) := rfl
    rw [hfeed]
    cases f.feed (f.index + i) <;> rfl
  · simp only [h, Bool.not_false, if_true]

theorem foldParts_render (r : Render α) (f : Feed.F α) (w : Int) (L : List Int) (acc : Str × Str × Str) :
    foldParts tangible (renderFeed r f) w L acc = foldParts r f w L acc := by
  induction L generalizing acc with
  | nil => rfl
  | cons i is ih =>
    simp only [foldParts, partsStep_render]
    cases partsStep r f w acc i with
    | error e => rfl
    | ok a => exact ih a

theorem parts_render (c : Colors) (r : Render α) (f : Feed.F α) (up down : Bool) (ctx w : Int) :
    parts c tangible ⟨renderFeed r f, up, down⟩ ctx w = parts c r ⟨f, up, down⟩ ctx w := by
  simp only [parts, walkUp_render, walkDown_render, foldParts_render]
  rfl

def genPage (r : Render T) (up down : Bool) (p : Ui.Page) : GenView.Page :=
  ⟨Gen18.toGenF (renderFeed r p.feed), up, down⟩

def genState (r : Render T) (s : Ui.State) (up down : Bool) (width height : Int) : GenView.State :=
  { h := ⟨s.hist.elements.map (genPage r up down), s.hist.index⟩, width := width, height := height,
    mode := modeNum s.mode, buffer := s.buffer }

theorem curOf_genState (r : Render T) (s : Ui.State) (up down : Bool) (width height : Int) :
    curOf (genState r s up down width height) =
      match History.current s.hist with
      | .error e => .error e
      | .ok page => .ok ⟨renderFeed r page.feed, up, down⟩ := by
  simp only [curOf, genState, GenHistory.Current, Gen18.index_natCast, History.current, List.getElem?_map]
  cases s.hist.elements[s.hist.index]? <;> rfl

theorem viewParts_genState (c : Colors) (r : Render T) (s : Ui.State) (up down : Bool) (width height : Int) :
    viewParts c tangible s.mode (curOf (genState r s up down width height)) s.context width =
      viewParts c r s.mode
        (match History.current s.hist with
         | .error e => .error e
         | .ok page => .ok ⟨page.feed, up, down⟩) s.context width := by
  rw [curOf_genState]
  unfold viewParts
  cases History.current s.hist with
  | error e => rfl
  | ok page => simp only [parts_render]

/-- **The translated `view` of a model state is the model's `Ui.view`** (`Ui.frame` applied to
    `Ui.viewParts` and `Ui.footerOf`), for every state of the model, every renderer of its items,
    both loading flags, every width and every terminal height below 2^62 — the parts shorter than a
    Go string can be. -/
theorem view_state_eq (c : Colors) (r : Render T) (s : Ui.State) (up down : Bool) (width height : Int)
    (h0 : 0 ≤ height) (h62 : height < 2 ^ 62)
    (hsz : ∀ t ce b, viewParts c r s.mode
        (match History.current s.hist with
         | .error e => .error e
         | .ok page => .ok ⟨page.feed, up, down⟩) s.context width = .ok (t, ce, b) →
      t.length < 2 ^ 62 ∧ ce.length < 2 ^ 62 ∧ b.length < 2 ^ 62) :
    GenView.view c s.context (genState r s up down width height) = Ui.view c r s up down width height := by
  have hv := viewParts_genState c r s up down width height
  rw [view_eq c s.context (genState r s up down width height) s.mode rfl h0 h62
    (by intro t ce b h; exact hsz t ce b (by rw [← hv]; exact h))]
  show viewOf c tangible s.mode (footerOf s) (curOf (genState r s up down width height)) s.context width height = _
  unfold Ui.view viewOf
  rw [hv]
  rfl

end Gen16v
