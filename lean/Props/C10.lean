import Model
import Proofs.C10

/-
  C10 — paging a collection yields every item exactly once, in order, and terminates.
  `load` is an arbitrary function, so every theorem covers cyclic and endless chains.
  (That `harvest0` is a total function at all is the termination part of the property; its
  termination proof is the measure `(amount, threshold + 1 - emptyCount)` in Model/Collection.lean.)
  Each theorem is the lemma about `Coll.Run` (Proofs/C10.lean), which holds for every amount, offset
  and empty-page count, at the run of `harvest`.
-/

namespace C10
open Coll

variable {R E : Type}

/-- (1) Every request returns after visiting a bounded number of pages, whatever the chain. -/
theorem harvest_bounded (load : R → Option (Page R E)) (c : Page R E) (amount start : Nat) :
    (harvest load c amount start).pages ≤ (amount + 1) * (threshold + 1) + 1 :=
  (harvest_run load c amount start).pages_le'

/-- (2) What is delivered is a prefix of the true sequence, of at most `amount` items, followed
    by at most one error item; and after an error item there is no continuation. -/
theorem harvest_prefix (load : R → Option (Page R E)) (c : Page R E) (amount start : Nat) :
    ∃ (items : List E) (tail : List (Out E)),
      (harvest load c amount start).out = items.map Out.item ++ tail ∧
      items.length ≤ amount ∧
      (tail = [] ∨ (∃ f, tail = [f] ∧ f.isItem = false ∧ (harvest load c amount start).cont = none)) ∧
      ∃ fuel, items <+: flat load fuel c start :=
  (harvest_run load c amount start).prefix_flat

/-- When a continuation is returned, exactly `amount` items were delivered (no error item), and
    the continuation points into a page that still has undelivered items. -/
theorem harvest_cont (load : R → Option (Page R E)) (c : Page R E) (amount start : Nat)
    (p : Page R E) (off : Nat) (h : (harvest load c amount start).cont = some (p, off)) :
    (∃ items : List E, (harvest load c amount start).out = items.map Out.item ∧ items.length = amount) ∧
    off < p.items.length :=
  (harvest_run load c amount start).cont_some h

/-- (3) Harvesting `n₁` and then `n₂` through the returned continuation delivers exactly what
    one request of `n₁ + n₂` delivers, with the same final continuation: no duplicates, gaps or
    reordering, for every split of the request. -/
theorem harvest_compose (load : R → Option (Page R E)) (c : Page R E) (n₁ n₂ start : Nat)
    (p : Page R E) (off : Nat) (h : (harvest load c n₁ start).cont = some (p, off)) :
    (harvest load c (n₁ + n₂) start).out =
      (harvest load c n₁ start).out ++ (harvest load p n₂ off).out ∧
    (harvest load c (n₁ + n₂) start).cont = (harvest load p n₂ off).cont := by
  simp only [harvest_eq_at] at h ⊢
  exact (harvestAt_run load c n₁ start 0).compose n₂ h

/-- (4) The continuation is empty, without an error item, only at the true end of a chain that
    ends cleanly — and then everything from the offset on has been delivered. -/
theorem harvest_complete (load : R → Option (Page R E)) (c : Page R E) (amount start : Nat)
    (hn : (harvest load c amount start).cont = none)
    (hi : ∀ o ∈ (harvest load c amount start).out, o.isItem = true) :
    ∃ fuel, endsCleanly load fuel c = true ∧
      (harvest load c amount start).out = (flat load fuel c start).map Out.item :=
  (harvest_run load c amount start).complete hn hi

/-- (5) Delivery is refused only after more than `threshold` *consecutive* empty pages. -/
theorem refuse_only_after_empties (load : R → Option (Page R E)) (c : Page R E) (amount start : Nat)
    (h : Out.refuse ∈ (harvest load c amount start).out) :
    ∃ fuel i, ∀ j, j ≤ threshold → ∃ q, (chain load fuel c)[i + j]? = some q ∧ q.items = [] := by
  obtain ⟨fuel, m, hm, H⟩ := (harvest_run load c amount start).refuse h
  exact ⟨fuel, m - threshold, fun j hj => H _ (by omega) (by omega)⟩

/-- Conversely, error items other than the refusal come from a page that fails (the condition on
    `q` is `Coll.broken load q` written out). -/
theorem failure_only_if_broken (load : R → Option (Page R E)) (c : Page R E) (amount start : Nat)
    (f : Out E) (hf : f ∈ (harvest load c amount start).out) (hni : f.isItem = false) (hr : f ≠ .refuse) :
    ∃ fuel, ∃ q ∈ chain load fuel c,
      q.elemsFailed = true ∨ (match q.next with
        | .err => True
        | .ref r => load r = none
        | .absent => False) :=
  (harvest_run load c amount start).failure hf hni hr

section
/-- The pages [a, ∅, b, ∅, c, ∅, d] as references 1..7; the example below puts an empty page in
    front of them. -/
private def demoLoad : Nat → Option (Page Nat Char)
  | 1 => some ⟨.ok ['a'], .ref 2⟩
  | 2 => some ⟨.ok [], .ref 3⟩
  | 3 => some ⟨.ok ['b'], .ref 4⟩
  | 4 => some ⟨.ok [], .ref 5⟩
  | 5 => some ⟨.ok ['c'], .ref 6⟩
  | 6 => some ⟨.ok [], .ref 7⟩
  | 7 => some ⟨.ok ['d'], .absent⟩
  | _ => none

/-- Four empty pages, no two of them consecutive, are all passed: `refuse_only_after_empties` is
    about consecutive ones, and a count of all the empty pages of a request would exceed
    `threshold` = 3 at the last one and refuse before `d`. -/
example : (harvest demoLoad ⟨.ok [], .ref 1⟩ 10 0).out = [.item 'a', .item 'b', .item 'c', .item 'd'] := by
  simp [harvest, harvest0, demoLoad, Page.items, Page.elemsFailed, nextEmpties, threshold]
end

end C10
