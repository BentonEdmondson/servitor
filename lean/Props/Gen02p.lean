import Model
import Generated.GoNavigate
import Props.Gen02n
import Props.Gen09

/-
  The tie by translation for C02 and C09, the navigation methods: `Parents`, `Children`, the
  identifiers, `Creators`, `Recipients`, `Actor`, `Target`, `Timestamp` of the items of package
  pub and `FetchUserInput` are translated from pub/post.go, pub/actor.go, pub/activity.go,
  pub/failure.go and pub/user-input.go on every run (`Generated/GoNavigate.lean`, namespace
  `GenNavigate`, front end extract/go2lean26.go).  The theorems below say that, over a world of
  the model, the translated methods never panic and return what the model says: `Pub.parents`
  (the chain of `inReplyTo` up to the quantity and the frontier that remains), `Ui.parentsOf`,
  `Ui.children`, `PostM.parentId`, `ActivityM.actorId`, the timestamps, and — as a decision
  table — `Ui.fetchUserInput`.

  The constructor the translated `Parents` calls is the translated `NewPostFromObject` of
  `Generated/GoNewitem.lean`, tied to the model by `Gen02n.newPostFromObject_eq`; the object and
  the id it is handed are the pair the record keeps from `getAndFetchUnkown(o, "inReplyTo",
  p.id)`: the source of the parent is the reply's own id, used once, in the constructor of the
  reply (unit newitem), and `Parents` itself hands no source on — in the code and in the model.

  The three identifier accessors are translated in unit listing as well (`Props/Gen09.lean`, where
  the listing closures call them); `identifiers_agree` says the two translations are the same
  functions.
-/

namespace Gen02p
open Pub GenNavigate GenListing Gen02n

/-- **`Post.Parents` as translated is the model's `parents`**, on every world, post and
    quantity: it never panics; the items it lists are the model's (a parent the model builds is
    listed as that very post, an error item stands where the model has one) and the frontier is
    the model's post. -/
theorem post_parents_eq (w : World) (P : Pres) (hP : P.Agrees w) (q : Nat) (p : PostM) :
    ∃ r, Post.Parents (libs w) (ext w P) p q = .ok r ∧
      r.1.map Gen09.toItem = (parents w q p).1 ∧
      r.2 = (parents w q p).2.map Tangible.post := by
  induction q generalizing p with
  | zero =>
    rw [Post.Parents]
    unfold parents
    simp only [dif_pos]
    cases hp : p.parent with
    | error e => cases e <;> exact ⟨_, rfl, rfl, rfl⟩
    | ok r => exact ⟨_, rfl, rfl, rfl⟩
  | succ q ih =>
    rw [Post.Parents]
    unfold parents
    simp only [Nat.add_one_ne_zero, dif_neg, not_false_eq_true]
    cases hp : p.parent with
    | error e => cases e <;> exact ⟨_, rfl, rfl, rfl⟩
    | ok r =>
      obtain ⟨o, id⟩ := r
      obtain ⟨r1, h1, h1'⟩ := newPostFromObject_eq w P hP o id
      simp only [h1, bind_ok]
      rw [← h1']
      cases r1 with
      | error e => exact ⟨_, rfl, rfl, rfl⟩
      | ok parent =>
        simp only [cls, Nat.add_eq_right, Nat.add_sub_cancel]
        by_cases hq : q = 0
        · simp only [hq, dif_pos, if_true]
          exact ⟨_, rfl, rfl, rfl⟩
        · simp only [hq, dif_neg, not_false_eq_true, if_false]
          obtain ⟨r2, h2, h2a, h2b⟩ := ih parent
          simp only [h2, bind_ok]
          refine ⟨_, rfl, ?_, h2b⟩
          simp only [List.map_cons, List.cons_append, List.nil_append, h2a, Gen09.toItem]

def frontItem (t : Option Tangible) : Option Item := t.map Gen09.toItem

/-- **`Parents` on the item an activity holds, and on an activity, is the model's
    `Ui.parentsOf`**: the post's chain when the activity is about a post, nothing otherwise. -/
theorem target_parents_eq (w : World) (P : Pres) (hP : P.Agrees w) (q : Nat) (t : Target) :
    ∃ r, Target.Parents (libs w) (ext w P) t q = .ok r ∧
      (r.1.map Gen09.toItem, frontItem r.2) =
        (match t with
         | .post p => Ui.parentsOf w q (.post p)
         | _ => ([], none)) := by
  cases t with
  | post p =>
    obtain ⟨r, hr, h1, h2⟩ := post_parents_eq w P hP q p
    refine ⟨r, hr, ?_⟩
    simp only [Ui.parentsOf, frontItem, h1, h2, Option.map_map]
    congr 1
  | actor a => exact ⟨_, rfl, rfl⟩
  | failure => exact ⟨_, rfl, rfl⟩

theorem activity_parents_eq (w : World) (P : Pres) (hP : P.Agrees w) (q : Nat) (a : ActivityM) :
    ∃ r, Activity.Parents (libs w) (ext w P) a q = .ok r ∧
      (r.1.map Gen09.toItem, frontItem r.2) = Ui.parentsOf w q (.activity a) := by
  obtain ⟨r, hr, h⟩ := target_parents_eq w P hP q a.target
  refine ⟨r, ?_, ?_⟩
  · simp only [Activity.Parents, hr]
  · rw [h]
    simp only [Ui.parentsOf]
    cases a.target <;> rfl

theorem actor_parents_eq (a : ActorM) (q : Nat) : Actor.Parents a q = ([], none) := rfl
theorem failure_parents_eq (q : Nat) : Failure.Parents q = ([], none) := rfl

/-- The container of the model a translated `Children()` stands for: the collection with the
    element constructor its owner gave it. -/
def container (k : Ui.CK) (c : Option CollM) : Option Ui.Container :=
  c.map fun c => .coll ⟨c.page, k⟩

/-- **`Post.Children`** is the collection read from `replies` (or `comments`), listed with the
    reply constructor of this post; none when the post has none. -/
theorem post_children_eq (p : PostM) :
    Ui.children (.post p) = container (.reply p.id) (Post.Children p) := by
  simp only [Ui.children, Post.Children, container]
  cases p.comments <;> rfl

theorem post_children_comments (p : PostM) : Post.Children p = p.comments.toOption := by
  simp only [Post.Children]
  cases p.comments <;> rfl

/-- **`Actor.Children`** is the collection read from `outbox`, listed with the outbox constructor. -/
theorem actor_children_eq (a : ActorM) :
    Ui.children (.actor a) = container (.outbox a.id) (Actor.Children a) := by
  simp only [Ui.children, Actor.Children, container]
  cases a.posts <;> rfl

theorem actor_children_posts (a : ActorM) : Actor.Children a = a.posts.toOption := by
  simp only [Actor.Children]
  cases a.posts <;> rfl

/-- **`Activity.Children`** is the children of what the activity is about. -/
theorem activity_children_eq (a : ActivityM) :
    Ui.children (.activity a) =
      (match a.target with
       | .post p => container (.reply p.id) (Activity.Children a)
       | .actor ac => container (.outbox ac.id) (Activity.Children a)
       | .failure => none) := by
  simp only [Ui.children, Activity.Children, Target.Children]
  cases ht : a.target with
  | post p => simp only; rw [← post_children_eq]; rfl
  | actor ac => simp only; rw [← actor_children_eq]; rfl
  | failure => rfl

theorem failure_children_eq : Failure.Children = none := rfl

/-- What the model lists below a post (`Pub.postChildren`) is the harvest of the collection the
    translated `Children()` returns, each entry through the reply constructor of this post. -/
theorem postChildren_eq (w : World) (p : PostM) (amount start : Nat) :
    postChildren w p amount start =
      (Post.Children p).map fun c =>
        ((Coll.harvest (loadPage w) c.page amount start).out.map (deliver (replyItem w p.id)),
         (Coll.harvest (loadPage w) c.page amount start).cont) := by
  simp only [postChildren, Post.Children]
  cases p.comments <;> rfl

/-- What the model lists below an actor (`Pub.actorChildren`) is the harvest of the collection
    its `Children()` returns, each entry through the outbox constructor of this actor. -/
theorem actorChildren_eq (w : World) (a : ActorM) (amount start : Nat) :
    actorChildren w a amount start =
      (Actor.Children a).map fun c =>
        ((Coll.harvest (loadPage w) c.page amount start).out.map (deliver (outboxItem w a.id)),
         (Coll.harvest (loadPage w) c.page amount start).cont) := by
  simp only [actorChildren, Actor.Children]
  cases a.posts <;> rfl

theorem parentIdentifier_eq (p : PostM) : GenNavigate.Post.ParentIdentifier p = p.parentId := by
  simp only [GenNavigate.Post.ParentIdentifier, PostM.parentId]
  cases p.parent <;> rfl

theorem identifier_eq (a : ActorM) : GenNavigate.Actor.Identifier a = a.id := rfl

theorem actorIdentifier_eq (a : ActivityM) : GenNavigate.Activity.ActorIdentifier a = a.actorId := by
  simp only [GenNavigate.Activity.ActorIdentifier, ActivityM.actorId, GenNavigate.Actor.Identifier]
  cases a.actor <;> rfl

/-- The accessors as unit listing translates them from the same source are the same functions. -/
theorem identifiers_agree (p : PostM) (a : ActorM) (v : ActivityM) :
    GenNavigate.Post.ParentIdentifier p = GenListing.Post.ParentIdentifier p ∧
    GenNavigate.Actor.Identifier a = GenListing.Actor.Identifier a ∧
    GenNavigate.Activity.ActorIdentifier v = GenListing.Activity.ActorIdentifier v :=
  ⟨(parentIdentifier_eq p).trans (Gen09.parentIdentifier_eq p).symm, rfl,
    (actorIdentifier_eq v).trans (Gen09.actorIdentifier_eq v).symm⟩

theorem creators_eq (p : PostM) : Post.Creators p = p.creators := rfl
theorem recipients_eq (p : PostM) : Post.Recipients p = p.recipients := rfl
theorem target_eq (a : ActivityM) : Activity.Target a = a.target := rfl

theorem creators_not_recipients (p : PostM) (h : p.creators ≠ p.recipients) :
    Post.Creators p ≠ Post.Recipients p := h

/-- **`Activity.Actor`** is the actor the activity was built with, an error item when that failed. -/
theorem activity_actor_eq (a : ActivityM) :
    Gen09.toItem (Activity.Actor a) = (match a.actor with | .ok ac => .actor ac | .error _ => .failure) := by
  simp only [Activity.Actor]
  cases a.actor <;> rfl

theorem post_timestamp_eq (p : PostM) : Post.Timestamp p = p.timestamp := by
  simp only [Post.Timestamp, PostM.timestamp]
  cases p.created <;> rfl

theorem actor_timestamp_eq (a : ActorM) : Actor.Timestamp a = a.timestamp := by
  simp only [Actor.Timestamp, ActorM.timestamp]
  cases a.joined <;> rfl

theorem failure_timestamp_eq : Failure.Timestamp = zeroTime := rfl

theorem activity_timestamp_eq (a : ActivityM) : Activity.Timestamp a = a.timestamp := by
  simp only [Activity.Timestamp, ActivityM.timestamp, Target.Timestamp]
  cases a.created with
  | ok t => rfl
  | error e =>
    cases e with
    | wrong => rfl
    | absent =>
      simp only [Go.Error.is, if_true]
      cases a.target with
      | post p => exact post_timestamp_eq p
      | actor ac => exact actor_timestamp_eq ac
      | failure => rfl

def isHandle (text : Str) : Bool :=
  Go.Strings.hasPrefix text "@".toList || Go.Strings.hasPrefix text "!".toList

def isPath (text : Str) : Bool :=
  Go.Strings.hasPrefix text "/".toList || Go.Strings.hasPrefix text "./".toList ||
    Go.Strings.hasPrefix text "../".toList

theorem hasPrefix_append (p text : Str) (h : Go.Strings.hasPrefix text p = true) :
    ∃ rest, text = p ++ rest := by
  simp only [Go.Strings.hasPrefix, Str.hasPrefix] at h
  obtain ⟨rest, hr⟩ := List.isPrefixOf_iff_prefix.1 h
  exact ⟨rest, hr.symm⟩

theorem sliceFrom_one (c : Char) (rest : Str) : Go.sliceFrom (c :: rest) 1 = .ok rest := by
  unfold Go.sliceFrom
  have h : ¬ ((1 : Int) < 0 ∨ (1 : Int) > ((c :: rest).length : Nat)) := by
    simp only [List.length_cons]; omega
  simp only [h, if_false]
  rfl

/-- A handle whose resolution fails is an error item; the resolver gets the text without its
    first character, whatever else it contains (further `@` included). -/
theorem handle_unresolved (L : Obj.Libs Int U) (X : GenNewitem.Ext) (E : Ext) (c : Char) (rest : Str)
    (hc : c = '@' ∨ c = '!') (e : Go.Error) (hr : E.ResolveWebfinger rest = .error e) :
    FetchUserInput L X E (c :: rest) = .ok (Any.failure (Failure.mk e)) := by
  rcases hc with rfl | rfl <;>
    simp [FetchUserInput, Go.Strings.hasPrefix, Str.hasPrefix, Go.str, sliceFrom_one, hr, bind, Except.bind, pure, Except.pure]

/-- A handle that resolves to a link is `New(link, nil)`: no source. -/
theorem handle_resolved (L : Obj.Libs Int U) (X : GenNewitem.Ext) (E : Ext) (c : Char) (rest : Str)
    (hc : c = '@' ∨ c = '!') (link : Str) (hr : E.ResolveWebfinger rest = .ok link) :
    FetchUserInput L X E (c :: rest) = GenNewitem.New L X (.str link) none := by
  rcases hc with rfl | rfl <;>
    simp [FetchUserInput, Go.Strings.hasPrefix, Str.hasPrefix, Go.str, sliceFrom_one, hr, bind, Except.bind] <;>
    cases GenNewitem.New L X (.str link) none <;> rfl

/-- What `New` makes of an `object.Object` handed over as `any` is always an error item. -/
theorem new_of_object (w : World) (P : Pres) (o : O) (source : Option U) :
    ∃ f, GenNewitem.New (libs w) (ext w P) (Go.anyOfObject o) source = .ok (Any.failure f) :=
  ⟨_, rfl⟩

/-- **A path never opens**: whether the file can be read or not, the result is an error item
    (`FetchFromFile` returns an `object.Object`, which `FetchUnknown` takes for neither a string
    nor a `map[string]any`). -/
theorem path_fails (w : World) (P : Pres) (E : Ext) (text : Str) (h1 : isHandle text = false)
    (h2 : isPath text = true) :
    ∃ f, FetchUserInput (libs w) (ext w P) E text = .ok (Any.failure f) := by
  simp only [isHandle, isPath] at h1 h2
  unfold FetchUserInput
  simp only [Go.str, h1, h2, Bool.false_eq_true, if_false, if_true]
  cases hf : E.FetchFromFile text with
  | error e => exact ⟨_, rfl⟩
  | ok o =>
    obtain ⟨f, hf'⟩ := new_of_object w P o none
    simp only [hf']
    exact ⟨_, rfl⟩

/-- Anything else is `New(text, nil)`: parsed as a URL, no source. -/
theorem url_case (L : Obj.Libs Int U) (X : GenNewitem.Ext) (E : Ext) (text : Str)
    (h1 : isHandle text = false) (h2 : isPath text = false) :
    FetchUserInput L X E text = GenNewitem.New L X (.str text) none := by
  simp only [isHandle, isPath] at h1 h2
  unfold FetchUserInput
  simp only [Go.str, h1, h2, Bool.false_eq_true, if_false]

theorem isHandle_cons (text : Str) (h : isHandle text = true) :
    ∃ c rest, (c = '@' ∨ c = '!') ∧ text = c :: rest := by
  simp only [isHandle, Bool.or_eq_true] at h
  rcases h with h | h
  · obtain ⟨rest, hr⟩ := hasPrefix_append _ text h
    exact ⟨_, rest, .inl rfl, hr⟩
  · obtain ⟨rest, hr⟩ := hasPrefix_append _ text h
    exact ⟨_, rest, .inr rfl, hr⟩

/-- **`FetchUserInput` as translated is the model's `Ui.fetchUserInput`** in the worlds of the
    model, where no handle resolves: never a panic, and the item is the model's. -/
theorem fetchUserInput_eq (w : World) (P : Pres) (hP : P.Agrees w) (E : Ext)
    (hE : ∀ s, ∃ e, E.ResolveWebfinger s = .error e) (text : Str) :
    ∃ a, FetchUserInput (libs w) (ext w P) E text = .ok a ∧
      Gen09.anyToItem a = Ui.fetchUserInput w text := by
  by_cases h1 : isHandle text = true
  · obtain ⟨c, rest, hc, rfl⟩ := isHandle_cons text h1
    obtain ⟨e, he⟩ := hE rest
    refine ⟨_, handle_unresolved _ _ E c rest hc e he, ?_⟩
    rcases hc with rfl | rfl <;> rfl
  · rw [Bool.not_eq_true] at h1
    by_cases h2 : isPath text = true
    · obtain ⟨f, hf⟩ := path_fails w P E text h1 h2
      refine ⟨_, hf, ?_⟩
      simp only [isPath, Bool.or_eq_true] at h2
      -- `/`, `./` or `../`: each is a pattern of the model's `fetchUserInput`
      rcases h2 with (h2 | h2) | h2 <;> obtain ⟨rest, rfl⟩ := hasPrefix_append _ text h2 <;> rfl
    · rw [Bool.not_eq_true] at h2
      rw [url_case _ _ E text h1 h2]
      obtain ⟨a, ha, ha'⟩ := new_eq w P hP (.str text) none
      refine ⟨a, ha, ?_⟩
      rw [ha']
      unfold Ui.fetchUserInput
      split <;> first | rfl | (simp [isHandle, isPath, Go.Strings.hasPrefix, Str.hasPrefix] at h1 h2)

end Gen02p
