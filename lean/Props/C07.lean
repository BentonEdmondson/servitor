import Model
import Proofs.C07
import Props.C06

/-
  C07 — keys do what the keymap says on every history and never crash the UI.
  `Ui.update` transcribes `State.Update` branch by branch over the item model; background loads
  run to completion inside the step ("once background loads have settled").
-/

namespace C07
open Ui Pub

/-- (1) No key sequence — link 0, over-long numbers, acting on an empty page, arbitrary bytes —
    panics: from any state satisfying the invariant, every key yields a state satisfying it. -/
theorem update_no_panic (w : World) (s : State) (k : Nat) (h : Inv s) :
    ∃ s', update w s k = .ok s' ∧ Inv s' := by
  -- Backspace and the digits are the two branches that may end in selection mode; every other
  -- one is `Settled`.
  show OkInv (update w s k)
  obtain ⟨h1, h2, h3⟩ := h
  unfold update
  refine ite_of (fun _ => ⟨s, rfl, h1, h2, h3⟩) fun hl => ?_
  have hok : HistOk s := h1 hl
  have ok : ∀ m b, m ≠ .selection → OkInv (.ok { s with mode := m, buffer := b }) :=
    fun m b hm => Settled.okInv ⟨_, rfl, hok, hm⟩
  refine ite_of (fun _ => ok _ _ (by decide)) fun _ => ite_of (fun _ => ?backspace) fun _ =>
    ite_of (fun hcmd => ?command) fun _ => ite_of (fun _ => ok _ _ (by decide)) fun _ =>
    ite_of (fun hd => ?digit) fun _ => ite_of (fun _ => ?selection) fun hsel =>
    (keySwitch_settled w s k hok hsel).okInv
  case backspace =>
    refine ite_of (fun _ => ok _ _ (by decide)) fun _ => ⟨_, rfl, fun _ => hok, h2, fun hsel => ?_⟩
    simp only at hsel ⊢
    split at hsel
    · cases hsel
    · rename_i hnot
      have hb : s.buffer.dropLast ≠ [] := fun he => hnot (by simp [he, hsel])
      exact ⟨hb, fun ch hch => (h3 hsel).2 ch (List.dropLast_subset _ hch)⟩
  case command =>
    refine ite_of (fun _ => ?_) fun _ => ok _ _ (by rw [hcmd]; decide)
    split
    · exact (subcommand_ok w s _ _ hok).settled.okInv
    · exact ok _ _ (by decide)
  case digit =>
    refine ⟨_, rfl, fun _ => hok, h2, fun _ => ⟨by simp, fun ch hch => ?_⟩⟩
    simp only [List.mem_append, List.mem_singleton] at hch
    rcases hch with hch | rfl
    · split at hch
      · rename_i hsel; exact (h3 hsel).2 ch hch
      · simp at hch
    · exact digit_isDigit k hd
  case selection =>
    refine ite_of (fun _ => ?_) fun _ =>
      (keySwitch_settled w { s with mode := .normal, buffer := [] } k hok (by simp)).okInv
    rw [currentItem_spec s _ (C18.current_eq s.hist hok)]
    simp only
    split
    · exact ok _ _ (by decide)
    · exact ite_of (fun _ => (openItem_ok w s _ (.inr hok)).settled.okInv)
        fun _ => ok _ _ (by decide)

/-- The state after start-up satisfies the invariant, whatever the world serves. -/
theorem start_inv (w : World) (context : Nat) (arg : Str) (feeds : List (Str × List Str)) :
    ∃ s, start w context arg feeds = .ok s ∧ Inv s ∧ s.mode = .normal := by
  obtain ⟨s, e, h, hm, _⟩ :=
    openItem_ok w { context := context, feeds := feeds } (fetchUserInput w arg) (.inl ⟨rfl, rfl⟩)
  exact ⟨s, e, inv_normal s h (by rw [hm]; decide), hm⟩

theorem run_inv (w : World) (keys : List Nat) (s : State) (h : Inv s) : OkInv (run w s keys) := by
  induction keys generalizing s with
  | nil => exact ⟨s, rfl, h⟩
  | cons k ks ih =>
    obtain ⟨s1, e1, i1⟩ := update_no_panic w s k h
    simp only [run, e1]
    exact ih s1 i1

/-- Hence every key history from start-up runs without panic. -/
theorem run_no_panic (w : World) (context : Nat) (arg : Str) (feeds : List (Str × List Str)) (keys : List Nat) :
    ∃ s0 s, start w context arg feeds = .ok s0 ∧ run w s0 keys = .ok s ∧ Inv s := by
  obtain ⟨s0, e0, i0, _⟩ := start_inv w context arg feeds
  obtain ⟨s, e, i⟩ := run_inv w keys s0 i0
  exact ⟨s0, s, e0, e, i⟩

/-- Esc cancels whatever was being typed (while loading every key is ignored). -/
theorem esc_cancels (w : World) (s : State) (h : s.mode ≠ .loading) :
    update w s 27 = .ok { s with buffer := [], mode := .normal } := by
  simp [update, h]

/-- `j` / `k` move the cursor one item within the thread, staying within bounds, and never
    change the page, the history or the mode. -/
theorem j_moves_down (w : World) (s s' : State) (page : Ui.Page) (hm : s.mode = .normal)
    (hp : History.current s.hist = .ok page) (hs : update w s 'j'.toNat = .ok s') :
    ∃ page', History.current s'.hist = .ok page' ∧
      page'.feed.index = (if Feed.contains page.feed 1 then page.feed.index + 1 else page.feed.index) ∧
      s'.hist.index = s.hist.index ∧ s'.hist.elements.length = s.hist.elements.length ∧ s'.mode = .normal := by
  rw [update_normal w s _ hm (by decide), keySwitch_j] at hs
  obtain ⟨p', e1, e2, e3, e4, e5⟩ := withFeed_load_result w s s' page Feed.moveDown hp hs
  exact ⟨p', e1, by rw [e2, moveDown_index], e3, e4, by rw [e5, hm]⟩

theorem k_moves_up (w : World) (s s' : State) (page : Ui.Page) (hm : s.mode = .normal)
    (hp : History.current s.hist = .ok page) (hs : update w s 'k'.toNat = .ok s') :
    ∃ page', History.current s'.hist = .ok page' ∧
      page'.feed.index = (if Feed.contains page.feed (-1) then page.feed.index - 1 else page.feed.index) ∧
      s'.hist.index = s.hist.index ∧ s'.hist.elements.length = s.hist.elements.length ∧ s'.mode = .normal := by
  rw [update_normal w s _ hm (by decide), keySwitch_k] at hs
  obtain ⟨p', e1, e2, e3, e4, e5⟩ := withFeed_load_result w s s' page Feed.moveUp hp hs
  exact ⟨p', e1, by rw [e2, moveUp_index], e3, e4, by rw [e5, hm]⟩

/-- `g` returns to the opened item (position 0) whenever it exists. -/
theorem g_returns (w : World) (s s' : State) (page : Ui.Page) (hm : s.mode = .normal)
    (hp : History.current s.hist = .ok page) (hs : update w s 'g'.toNat = .ok s') :
    ∃ page', History.current s'.hist = .ok page' ∧
      page'.feed.index = (if Feed.contains page.feed (-page.feed.index) then 0 else page.feed.index) := by
  rw [update_normal w s _ hm (by decide), keySwitch_g,
    withFeed_spec s _ page hp] at hs
  cases hs
  exact ⟨_, current_setCurrent s _ (current_lt _ _ hp), moveToCenter_index page.feed⟩

/-- `h` / `l` are `History.back` / `History.forward` on the browser history (which saturate at its
    ends, `C18.back_saturates`, `C18.forward_saturates`); nothing else changes. -/
theorem h_l_walk (w : World) (s : State) (hm : s.mode = .normal) :
    update w s 'h'.toNat = .ok { s with hist := History.back s.hist } ∧
    update w s 'l'.toNat = .ok { s with hist := History.forward s.hist } := by
  constructor
  · rw [update_normal w s _ hm (by decide), keySwitch_h]
  · rw [update_normal w s _ hm (by decide), keySwitch_l]

/-- Space opens the highlighted item on a new page: exactly one page is pushed right after the
    current one and the forward history is dropped; on an empty page nothing happens. -/
theorem space_opens (w : World) (s s' : State) (hi : Inv s) (hm : s.mode = .normal)
    (hs : update w s ' '.toNat = .ok s') :
    (currentItem s = .ok none → s' = s) ∧
    (∀ x, currentItem s = .ok (some x) →
      s'.hist.index = s.hist.index + 1 ∧ s'.hist.elements.length = s.hist.index + 2 ∧
      s'.hist.elements.take (s.hist.index + 1) = s.hist.elements.take (s.hist.index + 1) ∧ s'.mode = .normal) := by
  rw [update_normal w s _ hm (by decide)] at hs
  have hok : HistOk s := hi.1 (by rw [hm]; decide)
  constructor
  · intro hc
    rw [keySwitch_space_none w s hc] at hs
    cases hs; rfl
  · intro x hc
    rw [keySwitch_space_some w s x hc] at hs
    obtain ⟨s1, e1, e2, e3, _⟩ := switchTo_item w s x (.inr hok)
    rw [e1] at hs
    cases hs
    obtain ⟨a, b, c⟩ := e2.2 hok
    exact ⟨a, b, c, by rw [e3, hm]⟩

/-- `:feed <name>` with a configured feed opens exactly one new page (the merged feed) and
    returns to normal mode; with an unknown name it only returns to normal mode. -/
theorem feed_command (w : World) (s s' : State) (name : Str) (hi : Inv s) (hm : s.mode ≠ .loading)
    (hs : subcommand w s "feed".toList name = .ok s') :
    s'.mode = .normal ∧ s'.buffer = [] ∧
    ((s.feeds.find? (fun f => f.1 = name)).isNone → s'.hist = s.hist) ∧
    ((s.feeds.find? (fun f => f.1 = name)).isSome →
       s'.hist.index = s.hist.index + 1 ∧ s'.hist.elements.length = s.hist.index + 2) := by
  have h : HistOk s := hi.1 hm
  unfold subcommand at hs
  rw [if_neg (by simp), if_pos rfl] at hs
  split at hs
  · rename_i hf
    cases hs
    refine ⟨rfl, rfl, fun _ => rfl, ?_⟩
    rw [hf]; intro hc; cases hc
  · rename_i nm inputs hf
    obtain ⟨s1, h1, h2, _⟩ := switchTo_container w { s with mode := .loading, buffer := [] }
      (.feed (newSplicer w inputs)) (.inr h)
    rw [h1] at hs
    cases hs
    refine ⟨rfl, rfl, ?_, fun _ => ?_⟩
    · rw [hf]; intro hc; cases hc
    · obtain ⟨a, b, _⟩ := h2.2 h
      exact ⟨a, b⟩

/-- In normal mode a digit enters selection mode, with that digit as the number typed so far.
    (In selection mode a digit is appended to it: `update_digit`.) -/
theorem digit_selects (w : World) (s : State) (d : Nat) (hm : s.mode = .normal) (hd : '0'.toNat ≤ d ∧ d ≤ '9'.toNat) :
    update w s d = .ok { s with buffer := [Char.ofNat d], mode := .selection } := by
  rw [update_digit w s d (by rw [hm]; decide) (by rw [hm]; decide) hd, if_neg (by rw [hm]; decide)]
  rfl

/-- A number that opens nothing (0, too large, out of range, empty page) returns to normal mode
    and leaves the history alone. -/
theorem bad_number_cancels (w : World) (s s' : State) (hm : s.mode = .selection)
    (hnone : ∀ x n, currentItem s = .ok (some x) → atoi s.buffer = some n → selectLink x n = none)
    (hs : update w s 13 = .ok s') :
    s' = { s with buffer := [], mode := .normal } := by
  rw [update_enter w s hm] at hs
  split at hs
  · cases hs
  · rename_i cur hcur
    split at hs
    · cases hs; rfl
    · rename_i l hl
      split at hl
      · rename_i n x hn
        rw [hnone x n hcur hn] at hl
        cases hl
      · cases hl

/-- `atoi` of a digit string whose value does not fit a 64-bit `int` is `none` (the fold in the
    hypothesis is the one `atoi` computes): `strconv.Atoi` fails on such a number, and `update`
    then selects nothing (`bad_number_cancels`). -/
theorem overlong_number (b : Str) (h : 2 ^ 63 ≤ b.foldl (fun acc c => 10 * acc + (c.toNat - '0'.toNat)) 0) :
    atoi b = none := by
  unfold atoi
  simp only
  rw [if_neg (by omega)]

/-- Link numbers below 1 select nothing. -/
theorem number_zero_selects_nothing (x : T) (n : Int) (h : n < 1) : selectLink x n = none := by
  have hp (bl : List Str) := (C06.select_below_one bl ([] : List Unit) n h).1
  have ha (bl : List Str) := (C06.select_below_one bl ([] : List Unit) n h).2
  cases x <;> simp only [selectLink, hp, ha]
  split <;> rfl

/-- `o` on a post (or an activity about a post) that has media starts the hook: `opening` mode
    with the media link in the buffer; without media nothing changes. -/
theorem o_opens_media (w : World) (s : State) (cur : Option T) (hm : s.mode = .normal)
    (hc : currentItem s = .ok cur) :
    update w s 'o'.toNat =
      .ok (match mediaOf w cur with
           | some x => openExternally s x.link
           | none => s) := by
  rw [update_normal w s _ hm (by decide),
    keySwitch_media w s _ cur (.inl rfl) hc, if_pos rfl]
  rfl

/-- `p` and `b` open the highlighted actor's picture / banner, and only an actor's. -/
theorem p_b_open_pictures (w : World) (s : State) (cur : Option T) (hm : s.mode = .normal)
    (hc : currentItem s = .ok cur) (k : Nat) (hk : k = 'p'.toNat ∨ k = 'b'.toNat) :
    update w s k =
      .ok (match pictureOf w (k = 'b'.toNat) cur with
           | some x => openExternally s x.link
           | none => s) := by
  rw [update_normal w s k hm (by rcases hk with rfl | rfl <;> decide), keySwitch_media w s k cur (.inr hk) hc,
    if_neg (by rcases hk with rfl | rfl <;> decide)]
  rfl

/-- A number followed by Enter opens exactly the link `SelectLink` names, externally. -/
theorem enter_opens_externally (w : World) (s : State) (x : T) (n : Int) (l : Str)
    (hm : s.mode = .selection) (hc : currentItem s = .ok (some x))
    (hn : atoi s.buffer = some n) (hl : selectLink x n = some l) :
    update w s 13 = .ok (openExternally s l) := by
  rw [update_enter w s hm, hc]
  simp only [hn, hl]

/-- While a hook is running a digit starts a *fresh* selection: the link shown in the status
    line is not part of the number. -/
theorem digit_while_opening (w : World) (s : State) (d : Nat) (hm : s.mode = .opening)
    (hd : '0'.toNat ≤ d ∧ d ≤ '9'.toNat) :
    update w s d = .ok { s with buffer := [Char.ofNat d], mode := .selection } := by
  rw [update_digit w s d (by rw [hm]; decide) (by rw [hm]; decide) hd, if_neg (by rw [hm]; decide)]
  rfl

/-- When the hook exits, a state still in `opening` mode returns to normal mode with an empty
    buffer; any other state (the user has moved on) is left as it is. -/
theorem hookDone_spec (s : State) :
    hookDone s = (if s.mode = .opening then { s with mode := .normal, buffer := [] } else s) ∧
    (s.mode ≠ .opening → hookDone s = s) := by
  exact ⟨rfl, fun h => if_neg h⟩

/-- The representation invariant survives starting and finishing a hook. -/
theorem hook_keeps_inv (s : State) (l : Str) (h : Inv s) (hm : s.mode ≠ .loading) :
    Inv (openExternally s l) ∧ Inv (hookDone s) := by
  have hok : HistOk s := h.1 hm
  constructor
  · exact inv_normal _ hok (by simp [openExternally])
  · unfold hookDone
    split
    · exact inv_normal _ hok (by simp)
    · exact h

/-- `opens` names exactly the steps that start the hook: when it reports a link, `update` ends
    in `opening` mode with that link in the buffer. -/
theorem opens_spec (w : World) (s : State) (k : Nat) (l : Str) (h : opens w s k = some l) :
    ∃ s', update w s k = .ok s' ∧ s'.mode = .opening ∧ s'.buffer = l := by
  unfold opens at h
  by_cases hg : s.mode = .loading ∨ k = 27 ∨ k = 127 ∨ s.mode = .command ∨ k = ':'.toNat ∨
      ('0'.toNat ≤ k ∧ k ≤ '9'.toNat)
  · rw [if_pos hg] at h; cases h
  rw [if_neg hg] at h
  simp only [not_or] at hg
  obtain ⟨g1, _, _, g4, _, _⟩ := hg
  generalize hcur : currentItem s = c at h
  obtain _ | cur := c
  · cases h
  dsimp only at h
  have media (hk : k = 'o'.toNat ∨ k = 'p'.toNat ∨ k = 'b'.toNat)
      (h : (if k = 'o'.toNat then mediaOf w cur else pictureOf w (k = 'b'.toNat) cur).map (·.link) = some l) :
      ∃ s', update w s k = .ok s' ∧ s'.mode = .opening ∧ s'.buffer = l := by
    obtain ⟨x, hx, rfl⟩ := Option.map_eq_some_iff.mp h
    exact update_media w s k cur x g1 g4 hk hcur hx
  by_cases hsel : s.mode = .selection ∧ (k = '.'.toNat ∨ k = 13)
  · rw [if_pos hsel] at h
    by_cases h13 : k = 13
    · subst h13
      rw [if_pos rfl] at h
      split at h
      · rename_i n x hn
        exact ⟨_, enter_opens_externally w s x n l hsel.1 hcur hn h, rfl, rfl⟩
      · cases h
    · rw [if_neg h13] at h; cases h
  rw [if_neg hsel] at h
  by_cases ho : k = 'o'.toNat
  · exact media (.inl ho) (by rw [if_pos ho] at h ⊢; exact h)
  rw [if_neg ho] at h
  by_cases hp : k = 'p'.toNat
  · exact media (.inr (.inl hp)) (by rw [if_pos hp] at h; rw [if_neg ho]; subst hp; exact h)
  rw [if_neg hp] at h
  by_cases hb : k = 'b'.toNat
  · exact media (.inr (.inr hb)) (by rw [if_pos hb] at h; rw [if_neg ho]; subst hb; exact h)
  · rw [if_neg hb] at h; cases h

end C07
