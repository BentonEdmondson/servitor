import Model
import Generated.GoJtpfront
import Props.C04
import Props.C05
import Props.Gen04

/-
  C04 and C05 stated directly about jtp/jtp.go as translated from the source
  (`Generated/GoJtpfront.lean`, the statements of `Get` before the reader is set up), carried
  across the equalities of `Props/Gen04.lean`.  They hold for every world `W` (whatever the cache
  holds, whether the dial, `SetDeadline`, `Write` succeed), every link, accept string, tolerated
  list, budget and configured timeout.  `actsOf r` is the record of what was done on the network.
-/

namespace GenT04
open Jtp GenJtpFront Gen04
open Go.Net (URL)

variable {Doc Conn : Type}

def isWrite : Act Conn → Bool
  | .write _ _ => true
  | _ => false

def isDial : Act Conn → Bool
  | .dial _ _ _ => true
  | _ => false

/-- (C04 1 on the code) whatever `Get` writes on a connection, for a link whose `RequestURI()` and
    `Host` and an accept string that contain no CR/LF, is exactly one request: the request line,
    a Host header, an Accept header, the empty line, and nothing after it. -/
theorem request_exact (W : Ext Doc Conn) (timeout : Int) (link : URL) (accept : Str) (tol : List Str) (n : Nat)
    (hu : C04.noCRLF link.RequestURI) (hh : C04.noCRLF link.Host) (ha : C04.noCRLF accept)
    (c : Conn) (bytes : Str) (h : Act.write c bytes ∈ actsOf (Get_front W timeout link accept tol n)) :
    parseReq bytes =
      some ⟨"GET ".toList ++ link.RequestURI ++ " HTTP/1.0".toList,
            ["Host: ".toList ++ link.Host, "Accept: ".toList ++ accept], []⟩ := by
  rw [written_eq W timeout link accept tol n c bytes h]
  exact C04.request_exact _ _ _ hu hh ha

/-- What `Get` writes has the length of these pieces and nothing more: no further header or body. -/
theorem request_length (W : Ext Doc Conn) (timeout : Int) (link : URL) (accept : Str) (tol : List Str) (n : Nat)
    (c : Conn) (bytes : Str) (h : Act.write c bytes ∈ actsOf (Get_front W timeout link accept tol n)) :
    bytes.length = link.RequestURI.length + link.Host.length + accept.length + 35 := by
  rw [written_eq W timeout link accept tol n c bytes h]
  exact C04.request_length _ _ _

/-- One call of `Get` dials at most once and writes at most once: one request per connection. -/
theorem one_write_per_connection (W : Ext Doc Conn) (timeout : Int) (link : URL) (accept : Str) (tol : List Str)
    (n : Nat) :
    ((actsOf (Get_front W timeout link accept tol n)).filter isDial).length ≤ 1 ∧
    ((actsOf (Get_front W timeout link accept tol n)).filter isWrite).length ≤ 1 := by
  rcases acts_shapes W timeout link accept tol n with e | e | ⟨c', _, _, ⟨_, e | e | e⟩ | ⟨_, e | e⟩⟩ <;>
    rw [e] <;> simp [List.filter, isDial, isWrite]

/-- A CR LF inside `RequestURI()` does add a header line to what the code writes: the hypothesis
    of `request_exact` is needed (it is discharged for real URLs by `url.Parse`). -/
theorem request_injection_needs_crlf (W : Ext Doc Conn) (timeout : Int) (link : URL) (tol : List Str) (n : Nat)
    (hu : link.RequestURI = "/x\r\nX-Evil: 1".toList) (hh : link.Host = "h".toList)
    (c : Conn) (bytes : Str) (h : Act.write c bytes ∈ actsOf (Get_front W timeout link "a".toList tol n)) :
    (parseReq bytes).map (·.headers.length) = some 3 := by
  rw [written_eq W timeout link _ tol n c bytes h, hu, hh]
  exact C04.request_injection_needs_crlf

/-- (C04 2 on the code) only https links are dialled — with `tls.DialWithDialer`, over tcp, the
    default TLS configuration (`Act.dial` records nothing else; the translator rejects a
    configuration other than `nil`) — whatever the cache holds. -/
theorem no_plaintext (W : Ext Doc Conn) (timeout : Int) (link : URL) (accept : Str) (tol : List Str) (n : Nat)
    (d : Go.Net.Dialer) (network addr : Str)
    (h : Act.dial d network addr ∈ actsOf (Get_front W timeout link accept tol n)) :
    link.Scheme = "https".toList ∧ network = "tcp".toList := by
  refine ⟨?_, (dial_target W timeout link accept tol n d network addr h).2.1⟩
  by_cases hs : link.Scheme = Go.str "https"
  · exact hs
  · rw [non_https_never_dials W timeout link accept tol n hs] at h
    simp at h

/-- Nothing is written without a dial before it (the write goes to the connection the dial
    returned: `acts_shapes`), so nothing is written for another scheme either. -/
theorem no_write_without_https (W : Ext Doc Conn) (timeout : Int) (link : URL) (accept : Str) (tol : List Str)
    (n : Nat) (c : Conn) (bytes : Str)
    (h : Act.write c bytes ∈ actsOf (Get_front W timeout link accept tol n)) :
    link.Scheme = "https".toList ∧ W.dial (dialer timeout) "tcp".toList (targetOf link) = some c := by
  rcases acts_shapes W timeout link accept tol n with e | e | ⟨c', hd, hs, ⟨_, e | e | e⟩ | ⟨_, e | e⟩⟩ <;>
    rw [e] at h <;> simp at h <;> exact ⟨hs, by rw [h.1]; exact hd⟩

/-- (C05 on the code) whenever the configured timeout is positive, a write on a connection is
    preceded by `SetDeadline(time.Now().Add(timeout))` on that connection. -/
theorem deadline_before_write (W : Ext Doc Conn) (timeout : Int) (link : URL) (accept : Str) (tol : List Str)
    (n : Nat) (ht : timeout > 0) (i : Nat) (c : Conn) (bytes : Str)
    (h : (actsOf (Get_front W timeout link accept tol n))[i]? = some (Act.write c bytes)) :
    ∃ j, j < i ∧ (actsOf (Get_front W timeout link accept tol n))[j]? = some (Act.setDeadline c timeout) := by
  rcases acts_shapes W timeout link accept tol n with e | e | ⟨c', _, _, ⟨_, e | e | e⟩ | ⟨hn, _⟩⟩
  rotate_right
  · exact absurd ht hn
  -- in each shape the entries are read off one by one: a write stands only at index 2, the deadline at 1
  all_goals
    rw [e] at h ⊢
    rcases i with _ | _ | _ | _ | i <;>
      simp only [List.getElem?_cons_zero, List.getElem?_cons_succ, List.getElem?_nil, Option.some.injEq,
        reduceCtorEq, Act.write.injEq] at h <;>
      exact ⟨1, by omega, by simp [h.1]⟩

/-- (C05 on the code) the response is only read (the reader only set up) after the deadline, if
    one is configured, and the write. -/
theorem reading_after_deadline_and_write (W : Ext Doc Conn) (timeout : Int) (link : URL) (accept : Str)
    (tol : List Str) (n : Nat) (key : Str) (c : Conn) (acts : List (Act Conn))
    (h : Get_front W timeout link accept tol n = .reading key c acts) :
    key = cacheKey tol link.String ∧ link.Scheme = "https".toList ∧
      W.dial (dialer timeout) "tcp".toList (targetOf link) = some c ∧
      acts = (Act.dial (dialer timeout) "tcp".toList (targetOf link)) ::
        ((if timeout > 0 then [Act.setDeadline c timeout] else []) ++
          [Act.write c (request link.RequestURI link.Host accept)]) := by
  by_cases hm : W.cacheGet (cacheKey tol link.String) = none
  case neg => exact absurd h ((front_quiet W timeout link accept tol n (absurd · hm)).2 key c acts)
  by_cases hs : link.Scheme = Go.str "https"
  case neg => exact absurd h ((front_quiet W timeout link accept tol n fun _ => hs).2 key c acts)
  rw [front_miss W timeout link accept tol n hm hs] at h
  cases hd : W.dial (dialer timeout) (Go.str "tcp") (targetOf link) with
  | none => rw [hd] at h; cases h
  | some c' =>
    rw [hd] at h; simp only [afterDial] at h
    -- of the outcomes of `afterDial`, only the one where nothing fails is `reading`
    by_cases ht : timeout > 0
    · rw [if_pos ht] at h
      cases h1 : W.setDeadlineFails <;> cases h2 : W.writeFails <;>
        simp only [h1, h2, Bool.false_eq_true, ↓reduceIte, Front.reading.injEq, reduceCtorEq] at h
      obtain ⟨rfl, rfl, rfl⟩ := h
      exact ⟨rfl, hs, hd, by rw [if_pos ht]; rfl⟩
    · rw [if_neg ht] at h
      cases h2 : W.writeFails <;> simp only [h2, Bool.false_eq_true, ↓reduceIte, Front.reading.injEq, reduceCtorEq] at h
      obtain ⟨rfl, rfl, rfl⟩ := h
      exact ⟨rfl, hs, hd, by rw [if_neg ht]; rfl⟩

/-- (C05 on the code) a failed dial (or TLS handshake) is an error, after that one attempt and
    nothing else. -/
theorem dial_failure_is_err (W : Ext Doc Conn) (timeout : Int) (link : URL) (accept : Str) (tol : List Str)
    (n : Nat) (hmiss : W.cacheGet (cacheKey tol link.String) = none) (hs : link.Scheme = "https".toList)
    (hd : W.dial (dialer timeout) "tcp".toList (targetOf link) = none) :
    Get_front W timeout link accept tol n =
      .failed (.of "tls.DialWithDialer") [.dial (dialer timeout) "tcp".toList (targetOf link)] := by
  rw [front_miss W timeout link accept tol n hmiss hs]
  change (match W.dial (dialer timeout) "tcp".toList (targetOf link) with | none => _ | some c => _) = _
  rw [hd]
  rfl

/-- Not vacuous: a miss for `https://example.org/a?b` with a timeout of 10 s dials
    `example.org:443`, sets the deadline, and writes exactly the request. -/
example :
    Get_front (Doc := Unit) (Conn := Nat)
      { cacheGet := fun _ => none, dial := fun _ _ _ => some 7, setDeadlineFails := false, writeFails := false,
        newReader := fun _ => [] }
      10000000000
      { Scheme := "https".toList, Host := "example.org".toList, Hostname := "example.org".toList,
        RequestURI := "/a?b".toList, String := "https://example.org/a?b".toList }
      "application/json".toList ["application/activity+json".toList, "application/json".toList] 3
    = .reading "application/activity+json,application/json https://example.org/a?b".toList 7
        [.dial { Timeout := 10000000000 } "tcp".toList "example.org:443".toList,
         .setDeadline 7 10000000000,
         .write 7 "GET /a?b HTTP/1.0\r\nHost: example.org\r\nAccept: application/json\r\n\r\n".toList] := by
  -- the literals as character lists first: evaluating `String.toList` on a literal is slow to check
  repeat rewrite [String.toList_ofList]
  rfl

end GenT04
