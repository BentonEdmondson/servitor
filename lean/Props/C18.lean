import Model
import Proofs.C18

/-
  C18 — browser history and the feed cursor behave as their reference models.
-/

namespace C18
open History Feed

/-- Every operation sequence from the empty history: never panics, keeps the representation
    invariant, and denotes what the zipper computes. -/
theorem history_refines {α : Type} (ops : List (History.Op α)) :
    ∃ h, History.run {} ops = .ok h ∧ History.Inv h ∧
      History.abs h = History.Zipper.run History.Zipper.empty ops := by
  obtain ⟨h, hr, hi, _, ha⟩ := run_ok ops ({} : History.H α) inv_empty
  exact ⟨h, hr, hi, ha⟩

/-- `Current` is defined (no panic) as soon as one page has been added. -/
theorem current_defined {α : Type} (ops : List (History.Op α)) (h : History.H α)
    (hr : History.run {} ops = .ok h) (hadd : ∃ x, History.Op.add x ∈ ops) :
    ∃ x, History.current h = .ok x := by
  obtain ⟨h', hr', hi, hne, _⟩ := run_ok ops ({} : History.H α) inv_empty
  rw [hr] at hr'
  cases hr'
  exact current_ok h hi (hne (Or.inr hadd))

/-- Opening a page discards exactly the forward entries. -/
theorem add_drops_forward {α : Type} (z : History.Zipper α) (x c : α) (hc : z.cur = some c) :
    (z.step (.add x)).fwd = [] ∧ (z.step (.add x)).back = c :: z.back ∧ (z.step (.add x)).cur = some x := by
  simp [History.Zipper.step, hc]

/-- Back saturates at the first page. -/
theorem back_saturates {α : Type} (z : History.Zipper α) (hb : z.back = []) : z.step .back = z := by
  cases z with
  | mk b c f => cases c <;> simp_all [History.Zipper.step]

/-- Forward saturates at the last page. -/
theorem forward_saturates {α : Type} (z : History.Zipper α) (hf : z.fwd = []) : z.step .forward = z := by
  cases z with
  | mk b c f => cases c <;> simp_all [History.Zipper.step]

theorem rep_create {α : Type} (x : α) : Rep (Feed.create x) (Feed.Seq2.create x) := by
  refine rep_mk _ (-1) [x] 0 rfl rfl rfl fun i hi => ?_
  obtain rfl : i = 0 := Nat.lt_one_iff.mp hi
  rfl

/-- `createAndAppend xs` appends to a feed that holds nothing yet, with the cursor on the first
    position to be filled. -/
theorem rep_createList {α : Type} (xs : List α) : Rep (Feed.createAndAppend xs) (Feed.Seq2.createList xs) :=
  rep_append ⟨fun _ => none, 1, 0, 1⟩ ⟨0, [], 1⟩ xs (rep_mk _ 0 [] 1 rfl rfl rfl nofun)

/-- Every operation preserves the representation. -/
theorem rep_step {α : Type} (f : Feed.F α) (s : Feed.Seq2 α) (o : Feed.Op α) (h : Rep f s) :
    Rep (Feed.step f o) (s.step o) := by
  cases o with
  | append xs => exact rep_append f s xs h
  | prepend xs => exact rep_prepend f s xs h
  | up => exact rep_move f s h (-1) _ _ rfl rfl
  | down => exact rep_move f s h 1 _ _ rfl rfl
  | center =>
    exact rep_move f s h (-f.index) 0 0 (Int.add_right_neg _).symm (h.2.2.1 ▸ (Int.add_right_neg _).symm)

/-- Lookups, containment and parent/child classification agree with positions. -/
theorem rep_observe {α : Type} (f : Feed.F α) (s : Feed.Seq2 α) (h : Rep f s) (off : Int) :
    Feed.contains f off = s.inside (s.cursor + off) ∧
    (Feed.contains f off = true → Feed.get f off = .ok (s.at (s.cursor + off))) ∧
    Feed.isParent f off = decide (s.cursor + off < 0) ∧
    Feed.isChild f off = decide (s.cursor + off > 0) := by
  have hc := contains_eq_inside f s h off
  obtain ⟨hl, hu, hx, hf⟩ := h
  refine ⟨hc, ?_, ?_, ?_⟩
  · intro hct
    have hin : s.inside (s.cursor + off) = true := by rw [← hc]; exact hct
    simp only [Feed.get, hct, Bool.not_true, Bool.false_eq_true, ↓reduceIte]
    rw [hx, hf _ hin]
  · simp only [Feed.isParent, hx]
  · simp only [Feed.isChild, hx]

/-- Appending and prepending never move or lose existing items. -/
theorem append_keeps {α : Type} (s : Feed.Seq2 α) (xs : List α) (p : Int) (hp : s.inside p = true) :
    (s.step (.append xs)).at p = s.at p ∧ (s.step (.prepend xs)).at p = s.at p :=
  ⟨at_extend s (s.step (.append xs)) [] xs (Int.sub_zero _).symm rfl p hp,
    at_extend s (s.step (.prepend xs)) xs.reverse [] (by rw [List.length_reverse]; rfl) (List.append_nil _).symm p hp⟩

/-- Moves keep the cursor inside the sequence. -/
theorem moves_in_bounds {α : Type} (s : Feed.Seq2 α) (o : Feed.Op α) (hc : s.inside s.cursor = true) :
    (s.step o).inside (s.step o).cursor = true := by
  have h := (inside_iff s _).mp hc
  cases o with
  | append xs =>
    rw [inside_iff]; simp only [Feed.Seq2.step, List.length_append]; omega
  | prepend xs =>
    rw [inside_iff]
    simp only [Feed.Seq2.step, List.length_append, List.length_reverse]; omega
  | up | down | center =>
    simp only [Feed.Seq2.step]
    split
    · assumption
    · exact hc

example : Rep (Feed.create 7) (Feed.Seq2.create 7) := rep_create 7

end C18
