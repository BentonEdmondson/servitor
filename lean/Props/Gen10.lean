import Model
import Generated.GoCollection
import Proofs.C10

/-
  `Collection.harvestWithEmptyCount` and `Harvest` as translated from pub/collection.go on every
  run (`Generated/GoCollection.lean`, front end extract/go2lean6.go) equal the hand-written model
  `Coll.harvest0` / `Coll.harvest` the C10 theorems are stated over.

  The translated function recurses on an explicit fuel; its `uint` arithmetic wraps and its
  `emptyCount` is a wrapping `int`.  The Go `Collection` keeps value and error of `items` and of
  `next` in separate fields; `toPage` reads such a struct as a page of the model (nil error: the
  value; `ErrKeyNotPresent`: absent; any other error: failed) — nothing is assumed about the value
  next to a non-nil error, the code does not look at it.  `load` (`NewCollection(c.next, …)`) is an
  arbitrary function, so every statement covers cyclic and endless chains.

  `step` is one call in closed form.  `agreeAt`, the one induction on the fuel, compares it with
  `Coll.harvestAt` for all three arguments: below the number of pages the model visits the translated
  function runs out of fuel, from there on it returns what the model returns, so the model's ghost
  page count is exactly the recursion depth and its bound an explicit fuel bound.  No wrap-around is
  the hypothesis `amount + startingPoint < 2^64` (the model's stated assumption).
-/

namespace Gen10
open Coll GenCollection

variable {R E : Type}

/-- The page a Go `Collection` value stands for. -/
def toPage (c : Collection R E) : Page R E where
  elems := match c.elementsErr with
    | none => .ok c.elements
    | some .absent => .absent
    | some .wrong => .err
  next := match c.nextErr with
    | none => .ref c.next
    | some .absent => .absent
    | some .wrong => .err

def toLoad (load : R → Option (Collection R E)) : R → Option (Page R E) :=
  fun r => (load r).map toPage

def toCont : Option (Collection R E) × Nat → Cont R E
  | (some c, n) => some (toPage c, n)
  | (none, _) => none

theorem toCont_none (r : Option (Collection R E) × Nat) : toCont r = none ↔ r.1 = none := by
  rcases r with ⟨_ | c, n⟩ <;> simp [toCont]

theorem toCont_some {r : Option (Collection R E) × Nat} {p : Collection R E} (h : r.1 = some p) :
    toCont r = some (toPage p, r.2) := by
  rcases r with ⟨_, n⟩; cases h; rfl

theorem tabulate_zero {β : Type} (f : Nat → Except Panic β) : Go.tabulate 0 f = .ok [] := rfl

/-- The cells filled from the page: `k` items from offset `s` on, provided they are there. -/
theorem tabulate_items (xs : List E) (s k : Nat) (hk : k ≠ 0 → s + k ≤ xs.length) (hs : s + k < 2 ^ 64) :
    Go.tabulate k (fun i => Out.item <$> Go.uindex xs (Go.uadd i s))
      = .ok (((xs.drop s).take k).map Out.item) := by
  have : ∀ k i, (k ≠ 0 → s + i + k ≤ xs.length) → s + i + k < 2 ^ 64 →
      (List.range' i k).mapM (fun i => Out.item <$> Go.uindex xs (Go.uadd i s))
        = .ok (((xs.drop (s + i)).take k).map Out.item) := by
    intro k
    induction k with
    | zero => intros; rfl
    | succ k ih =>
      intro i h hlt
      have h1 : Go.uadd i s = s + i := by rw [Go.uadd, Nat.mod_eq_of_lt (by omega), Nat.add_comm]
      have hi : s + i < xs.length := by omega
      rw [List.range'_succ, List.mapM_cons, ih (i + 1) (by omega) (by omega),
        List.drop_eq_getElem_cons hi, List.take_succ_cons, List.map_cons]
      simp only [Go.uindex, h1, List.getElem?_eq_getElem hi]
      rfl
  unfold Go.tabulate
  rw [List.range_eq_range']
  exact this k 0 hk hs

theorem liftM_ok_bind {α β : Type} (x : α) (f : α → Go.Fuel β) :
    (do let y ← liftM (Except.ok x : Except Panic α); f y : Go.Fuel β) = f x := rfl

abbrev Ret (R E : Type) := List (Out E) × Option (Collection R E) × Nat

/-- How the code reads `next` and its error. -/
theorem next_cases {α : Type} (c : Collection R E) (A B : α) (C : R → α) :
    (match (toPage c).next with | .absent => A | .err => B | .ref r => C r) =
      if Go.errIsOpt c.nextErr .absent then A else if Go.errNotNil c.nextErr then B else C c.next := by
  rcases c with ⟨els, ee, nx, _ | _ | _⟩ <;> rfl

section
attribute [local simp] toPage Page.elemsFailed Page.items Go.errNotNil Go.errIsOpt Go.ulen nextEmpties
  threshold liftM_ok_bind tabulate_zero

/-- One call of the translated function, in closed form (no wrap-around: `a + s < 2^64`): the
    cases of `harvestAt`, with the recursive call at one unit of fuel less. -/
theorem step (load : R → Option (Collection R E)) (fuel : Nat) (c : Collection R E)
    (a s e : Nat) (has : a + s < 2 ^ 64) (he : (e : Int) < 2 ^ 63 - 1) :
    harvestWithEmptyCount load (fuel + 1) c a s (e : Int) =
      (if (toPage c).elemsFailed then some (.ok ([.failElems], none, 0))
      else if nextEmpties (toPage c).items.length e > threshold then some (.ok ([.refuse], none, 0))
      else if (toPage c).items.length > a + s then
        some (.ok ((((toPage c).items.drop s).take a).map .item, some c, a + s))
      else match (toPage c).next with
        | .absent => some (.ok (((toPage c).items.drop s).map .item, none, 0))
        | .err => some (.ok (((toPage c).items.drop s).map .item ++ [.failNext], none, 0))
        | .ref r => match load r with
          | none => some (.ok (((toPage c).items.drop s).map .item ++ [.failLoad], none, 0))
          | some p =>
            (fun r : Ret R E => (((toPage c).items.drop s).map .item ++ r.1, r.2)) <$>
              harvestWithEmptyCount load fuel p (a - ((toPage c).items.length - s)) 0
                (nextEmpties (toPage c).items.length e : Nat) : Go.Fuel (Ret R E)) := by
  have hu : Go.uadd a s = a + s := Nat.mod_eq_of_lt has
  have hw : Go.wrap64 ((e : Int) + 1) = ((e + 1 : Nat) : Int) := by unfold Go.wrap64; omega
  have h3 : ((3 : Int) < (e : Int) + 1) = (3 < e + 1) := by simp; omega
  have hsub : ∀ k, k ≤ a → Go.usub a k = a - k := fun k h => if_pos h
  rw [harvestWithEmptyCount, next_cases, hu]
  rcases c with ⟨els, _ | _ | _, nx, ne⟩
  · -- elements present; the tests of the code are decided by where `s` and `a + s` lie
    have ht := tabulate_items els s
    by_cases hx : els.length = 0
    · simp [hw, h3, hsub, List.eq_nil_of_length_eq_zero hx]
      rfl
    by_cases hl : els.length > a + s
    · simp [hx, hl, show ¬ s ≥ els.length by omega, ht a (by omega) (by omega)]
      rfl
    by_cases hs : s ≥ els.length
    · simp [hx, hl, hs, hsub, List.drop_eq_nil_of_le hs]
      rfl
    · have hk : Go.usub els.length s = els.length - s := if_pos (by omega)
      have htl := ht (els.length - s) (by omega) (by omega)
      rw [List.take_of_length_le (by simp)] at htl
      simp [hx, hl, hs, hk, htl, hsub (els.length - s) (by omega)]
      rfl
  · -- no `items` key: an empty page
    simp [hw, h3, hsub]
    rfl
  · simp
    rfl

end

/-- The translated function returns (no panic, fuel sufficient) what the model returns. -/
def Agrees (g : Go.Fuel (Ret R E)) (m : Res R E) : Prop :=
  ∃ r : Ret R E, g = some (.ok r) ∧ r.1 = m.out ∧ toCont r.2 = m.cont ∧ (r.2.1 = none → r.2.2 = 0)

/-- The translated function against `harvestAt`, for all three arguments: it runs out of fuel
    exactly below the model's page count, and from there on agrees with the model. -/
theorem agreeAt (load : R → Option (Collection R E)) (fuel : Nat) (c : Collection R E) (a s e : Nat)
    (has : a + s < 2 ^ 64) (he : e < 2 ^ 63 - 1) :
    (fuel < (harvestAt (toLoad load) (toPage c) a s e).pages →
      harvestWithEmptyCount load fuel c a s (e : Int) = none) ∧
    ((harvestAt (toLoad load) (toPage c) a s e).pages ≤ fuel →
      Agrees (harvestWithEmptyCount load fuel c a s (e : Int)) (harvestAt (toLoad load) (toPage c) a s e)) := by
  induction fuel generalizing c a s e with
  | zero =>
    have := (harvestAt_run (toLoad load) (toPage c) a s e).pages_pos
    exact ⟨fun _ => rfl, fun h => by omega⟩
  | succ fuel ih =>
    have leaf : ∀ (out : List (Out E)) (k : Option (Collection R E) × Nat), (k.1 = none → k.2 = 0) →
        (fuel + 1 < 1 → (some (.ok (out, k)) : Go.Fuel (Ret R E)) = none) ∧
        (1 ≤ fuel + 1 → Agrees (some (.ok (out, k))) ⟨out, toCont k, 1⟩) :=
      fun out k hk => ⟨fun h => absurd h (by omega), fun _ => ⟨_, rfl, rfl, rfl, hk⟩⟩
    rw [step load fuel c a s e has (by omega), harvestAt]
    by_cases hf : (toPage c).elemsFailed = true
    · simp only [if_pos hf]; exact leaf _ (none, 0) fun _ => rfl
    by_cases hr : nextEmpties (toPage c).items.length e > threshold
    · simp only [if_neg hf, if_pos hr]; exact leaf _ (none, 0) fun _ => rfl
    by_cases hl : (toPage c).items.length > a + s
    · simp only [if_neg hf, if_neg hr, if_pos hl]; exact leaf _ (some c, _) nofun
    simp only [if_neg hf, if_neg hr, if_neg hl]
    cases hn : (toPage c).next with
    | absent => exact leaf _ (none, 0) fun _ => rfl
    | err => exact leaf _ (none, 0) fun _ => rfl
    | ref r =>
      cases hld : load r with
      | none => simp only [toLoad, hld]; exact leaf _ (none, 0) fun _ => rfl
      | some p =>
        simp only [toLoad, hld, Option.map, harvest0_eq_at]
        obtain ⟨hnone, hsome⟩ := ih p (a - ((toPage c).items.length - s)) 0
          (nextEmpties (toPage c).items.length e) (by omega)
          (by unfold threshold at hr; omega)
        refine ⟨fun h => by rw [hnone (by omega)]; rfl, fun h => ?_⟩
        obtain ⟨r, hr, h1, h2, h3⟩ := hsome (by omega)
        rw [hr]
        exact ⟨_, rfl, by simp [h1], h2, h3⟩

theorem agree0 (load : R → Option (Collection R E)) (fuel : Nat) (c : Collection R E) (a e : Nat)
    (ha : a < 2 ^ 64) (he : e < 2 ^ 63 - 1)
    (hf : (harvest0 (toLoad load) (toPage c) a e).pages ≤ fuel) :
    Agrees (harvestWithEmptyCount load fuel c a 0 (e : Int)) (harvest0 (toLoad load) (toPage c) a e) := by
  rw [harvest0_eq_at] at hf ⊢
  exact (agreeAt load fuel c a 0 e (by omega) he).2 hf

theorem agree (load : R → Option (Collection R E)) (fuel : Nat) (c : Collection R E) (a s : Nat)
    (has : a + s < 2 ^ 64)
    (hf : (harvest (toLoad load) (toPage c) a s).pages ≤ fuel) :
    Agrees (Harvest load fuel c a s) (harvest (toLoad load) (toPage c) a s) := by
  rw [harvest_eq_at] at hf ⊢
  exact (agreeAt load fuel c a s 0 has (by omega)).2 hf

/-- Depth bound for a call at starting point 0 with `empties ≤ threshold` consecutive empty pages
    behind it. -/
def fuelBound0 (amount empties : Nat) : Nat := amount * (threshold + 1) + (threshold + 1 - empties)

/-- Depth bound for `Harvest(amount, startingPoint)`. -/
def fuelBound (amount : Nat) : Nat := (amount + 1) * (threshold + 1) + 1

/-- `harvestWithEmptyCount(amount, 0, empties)` as translated equals the model's `harvest0`
    for every fuel from `fuelBound0` on: same delivered entries, same continuation (page and
    offset; offset 0 next to a nil continuation), no panic. -/
theorem harvestWithEmptyCount_eq (load : R → Option (Collection R E)) (c : Collection R E)
    (amount empties fuel : Nat) (ha : amount < 2 ^ 64) (he : empties ≤ threshold)
    (hfuel : fuelBound0 amount empties ≤ fuel) :
    ∃ r : Ret R E, harvestWithEmptyCount load fuel c amount 0 (empties : Int) = some (.ok r) ∧
      r.1 = (harvest0 (toLoad load) (toPage c) amount empties).out ∧
      toCont r.2 = (harvest0 (toLoad load) (toPage c) amount empties).cont ∧
      (r.2.1 = none → r.2.2 = 0) := by
  have hp := (harvest0_run (toLoad load) (toPage c) amount empties).pages_le rfl he
  exact agree0 load fuel c amount empties ha (by simp only [threshold] at he; omega)
    (by unfold fuelBound0 at hfuel; omega)

/-- `Harvest(amount, startingPoint)` as translated equals the model's `harvest` for every
    fuel from `fuelBound amount` on, provided `amount + startingPoint` does not wrap. -/
theorem harvest_eq (load : R → Option (Collection R E)) (c : Collection R E)
    (amount start fuel : Nat) (has : amount + start < 2 ^ 64) (hfuel : fuelBound amount ≤ fuel) :
    ∃ r : Ret R E, Harvest load fuel c amount start = some (.ok r) ∧
      r.1 = (harvest (toLoad load) (toPage c) amount start).out ∧
      toCont r.2 = (harvest (toLoad load) (toPage c) amount start).cont ∧
      (r.2.1 = none → r.2.2 = 0) := by
  have hp := (harvest_run (toLoad load) (toPage c) amount start).pages_le'
  exact agree load fuel c amount start has (by unfold fuelBound at hfuel; omega)

theorem harvest_ok {load : R → Option (Collection R E)} {c : Collection R E} {amount start fuel : Nat}
    {r : Ret R E} (has : amount + start < 2 ^ 64) (hfuel : fuelBound amount ≤ fuel)
    (hr : Harvest load fuel c amount start = some (.ok r)) :
    r.1 = (harvest (toLoad load) (toPage c) amount start).out ∧
      toCont r.2 = (harvest (toLoad load) (toPage c) amount start).cont := by
  obtain ⟨r', hr', hout, hcont, _⟩ := harvest_eq load c amount start fuel has hfuel
  cases hr.symm.trans hr'
  exact ⟨hout, hcont⟩

/-- The ghost page count of the model bounds the depth: fuel equal to the pages the model visits
    is already enough. -/
theorem harvest_depth_le_pages (load : R → Option (Collection R E)) (c : Collection R E)
    (amount start : Nat) (has : amount + start < 2 ^ 64) :
    ∃ r : Ret R E, Harvest load (harvest (toLoad load) (toPage c) amount start).pages c amount start
      = some (.ok r) := by
  obtain ⟨r, h, _⟩ := agree load _ c amount start has (Nat.le_refl _)
  exact ⟨r, h⟩

/-- Termination of the code as translated: whatever the world — `load` is an arbitrary
    function, so cyclic and endless chains are included — `Harvest` returns, without panic,
    within recursion depth `fuelBound amount = (amount + 1) * 4 + 1`. -/
theorem harvest_terminates (load : R → Option (Collection R E)) (c : Collection R E)
    (amount start : Nat) (has : amount + start < 2 ^ 64) :
    ∀ fuel, fuelBound amount ≤ fuel → ∃ r, Harvest load fuel c amount start = some (.ok r) := by
  intro fuel hfuel
  obtain ⟨r, h, _⟩ := harvest_eq load c amount start fuel has hfuel
  exact ⟨r, h⟩

theorem fuelBound_value (amount : Nat) : fuelBound amount = 4 * amount + 5 := by
  unfold fuelBound threshold; omega

/-- The translated `Harvest` runs out of fuel exactly below the number of pages the model
    visits: the model's ghost count is the recursion depth of the code. -/
theorem harvest_depth (load : R → Option (Collection R E)) (fuel : Nat) (c : Collection R E)
    (amount start : Nat) (has : amount + start < 2 ^ 64) :
    Harvest load fuel c amount start = none ↔
      fuel < (harvest (toLoad load) (toPage c) amount start).pages := by
  rw [harvest_eq_at]
  obtain ⟨h1, h2⟩ := agreeAt load fuel c amount start 0 has (by omega)
  refine ⟨fun h => Nat.lt_of_not_le fun hle => ?_, h1⟩
  obtain ⟨r, hr, _⟩ := h2 hle
  cases h.symm.trans hr

end Gen10
