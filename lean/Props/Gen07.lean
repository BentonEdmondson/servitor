import Model.Ui
import Model.GoConv
import Generated.GoUpdate
import Props.Gen18
import Proofs.Gen16
import Proofs.Gen16v
import Proofs.C07

/-
  The tie by translation for C07: `(*State).Update` of ui/ui.go — the function every key byte goes
  through — is translated from the source on every run (`extract/go2lean16.go` →
  `Generated/GoUpdate.lean`, namespace `GenUpdate`): the `loading` early return, Escape, Backspace,
  the command line, `:` and the digits, selection mode with `strconv.Atoi` and `SelectLink`, the
  fall-through into the final `switch input`, one case per key.  What a branch does beyond mode and
  buffer are calls of the parameter `env` (the other methods of `*State`, the methods of package
  pub), with the arguments the source gives them.

  Here the actions are interpreted by the model's own functions (`env`: `Ui.loadSurroundings`,
  `Ui.switchTo`, `Ui.openExternally`, `Ui.openItem`, `Ui.subcommand`, `Ui.selectLink`,
  `Link.postMedia` …; history and feed methods are the translated ones of `Generated/GoHistory.lean`
  and `GoFeed.lean`), and the theorem is

    `update_eq`:  GenUpdate.Update (env w s.context s.feeds) (enc s) k = (Ui.update w s k).map enc

  for every model state `s` and every `k`, under the one clause of the model's invariant that
  `strconv.Atoi` needs (in selection mode the buffer is a non-empty digit string).  `enc` encodes a
  model state as a translated state: modes by the numbers of the `const` block, items by the sum
  of the four types behind `pub.Tangible` (the model's fifth kind of item, a collection, which no
  feed holds, travels in the `Failure` slot: every key treats it as it treats a failure), the
  fields of a page that `Update` does not touch as `rest`.  `dec` is its inverse (`dec_enc`, and
  `enc_dec` on every state the code can be in).

  One action needs a word: Go's `subcommand` returns an error for an unknown name and `Update`
  shows it; the model's `Ui.subcommand` has that branch of `Update` folded in.  `env.subcommand`
  therefore answers an unknown name with the error `subcommand` of ui.go builds (state unchanged)
  and is `Ui.subcommand` for `open` and `feed`; the theorem then says `Update`'s error branch ends
  where the model's third branch ends.
-/

namespace Gen07
open Ui Pub

/-- What a page carries besides its feed (`frontier`, `children`, `basepoint`; `loadingUp` /
    `loadingDown` are false in every settled state). -/
abbrev Rest := Option T × Option Container × Nat

abbrev GT := GenUpdate.Tangible ActivityM ActorM (Option CollM) PostM
abbrev GPage := GenUpdate.Page ActivityM ActorM (Option CollM) PostM Rest
abbrev GState := GenUpdate.State ActivityM ActorM (Option CollM) PostM Rest
abbrev GEnv := GenUpdate.Env ActivityM ActorM (Option CollM) PostM Rest
abbrev GArg := GenUpdate.Arg_switchTo ActivityM ActorM (Option CollM) PostM

def encT : T → GT
  | .failure => .failure none
  | .collection c => .failure (some c)
  | .actor a => .actor a
  | .post p => .post p
  | .activity a => .activity a

def decT : GT → T
  | .failure none => .failure
  | .failure (some c) => .collection c
  | .actor a => .actor a
  | .post p => .post p
  | .activity a => .activity a

@[simp] theorem encT_post (p : PostM) : encT (.post p) = .post p := rfl
@[simp] theorem encT_actor (p : ActorM) : encT (.actor p) = .actor p := rfl
@[simp] theorem encT_activity (p : ActivityM) : encT (.activity p) = .activity p := rfl
@[simp] theorem encT_failure : encT .failure = .failure none := rfl
@[simp] theorem encT_collection (c : CollM) : encT (.collection c) = .failure (some c) := rfl

@[simp] theorem decT_encT (x : T) : decT (encT x) = x := by cases x <;> rfl

theorem encT_decT (x : GT) : encT (decT x) = x := by
  cases x with
  | failure v => cases v <;> rfl
  | _ => rfl

def encFeed (f : Feed.F T) : GenFeed.Feed GT :=
  ⟨fun i => (f.feed i).map encT, f.upper, f.lower, f.index⟩

def decFeed (g : GenFeed.Feed GT) : Feed.F T :=
  ⟨fun i => (g.feed i).map decT, g.upperBound, g.lowerBound, g.index⟩

theorem decFeed_encFeed (f : Feed.F T) : decFeed (encFeed f) = f := by
  cases f; simp [decFeed, encFeed, Function.comp_def]

theorem encFeed_decFeed (g : GenFeed.Feed GT) : encFeed (decFeed g) = g := by
  cases g; simp [decFeed, encFeed, Function.comp_def, encT_decT]

def encPage (p : Ui.Page) : GPage := ⟨encFeed p.feed, (p.frontier, p.children, p.basepoint)⟩

def decPage (g : GPage) : Ui.Page :=
  { feed := decFeed g.feed, frontier := g.rest.1, children := g.rest.2.1, basepoint := g.rest.2.2 }

@[simp] theorem encPage_feed (p : Ui.Page) : (encPage p).feed = encFeed p.feed := rfl
@[simp] theorem encPage_rest (p : Ui.Page) : (encPage p).rest = (p.frontier, p.children, p.basepoint) := rfl

theorem mk_encPage (f : Feed.F T) (p : Ui.Page) :
    (⟨encFeed f, (p.frontier, p.children, p.basepoint)⟩ : GPage) = encPage { p with feed := f } := rfl

theorem decPage_encPage (p : Ui.Page) : decPage (encPage p) = p := by
  cases p; simp [decPage, encPage, decFeed_encFeed]

theorem encPage_decPage (g : GPage) : encPage (decPage g) = g := by
  cases g; simp only [encPage, decPage, encFeed_decFeed]

def modeNum : Mode → Int
  | .loading => GenUpdate.loading
  | .normal => GenUpdate.normal
  | .command => GenUpdate.command
  | .selection => GenUpdate.selection
  | .opening => GenUpdate.opening
  | .problem => GenUpdate.problem

def modeOf (k : Int) : Mode :=
  if k = 0 then .loading else if k = 1 then .normal else if k = 2 then .command
  else if k = 3 then .selection else if k = 4 then .opening else .problem

@[simp] theorem modeOf_modeNum (m : Mode) : modeOf (modeNum m) = m := by cases m <;> rfl

theorem modeNum_modeOf (k : Int) (h0 : 0 ≤ k) (h5 : k ≤ 5) : modeNum (modeOf k) = k := by
  have : k = 0 ∨ k = 1 ∨ k = 2 ∨ k = 3 ∨ k = 4 ∨ k = 5 := by omega
  rcases this with h | h | h | h | h | h <;> subst h <;> rfl

theorem modeNum_inj {m m' : Mode} : modeNum m = modeNum m' ↔ m = m' :=
  ⟨fun h => by rw [← modeOf_modeNum m, h, modeOf_modeNum], congrArg _⟩

def encH (h : History.H Ui.Page) : GenHistory.History GPage := ⟨h.elements.map encPage, h.index⟩

def enc (s : Ui.State) : GState := ⟨encH s.hist, modeNum s.mode, s.buffer⟩

@[simp] theorem enc_h (s : Ui.State) : (enc s).h = encH s.hist := rfl
@[simp] theorem enc_mode (s : Ui.State) : (enc s).mode = modeNum s.mode := rfl
@[simp] theorem enc_buffer (s : Ui.State) : (enc s).buffer = s.buffer := rfl

def dec (ctx : Nat) (feeds : List (Str × List Str)) (g : GState) : Ui.State :=
  { mode := modeOf g.mode, buffer := g.buffer,
    hist := ⟨g.h.elements.map decPage, g.h.index.toNat⟩, context := ctx, feeds := feeds }

/-- `dec_enc` for a state given by its fields: what `Update` builds after moving in the feed is an encoding, but
    not of the form `enc _`. -/
theorem dec_mk (c : Nat) (f : List (Str × List Str)) (h : History.H Ui.Page) (m : Mode) (b : Str) :
    dec c f ⟨encH h, modeNum m, b⟩ = ⟨m, b, h, c, f⟩ := by
  cases h; simp [dec, encH, Function.comp_def, decPage_encPage]

theorem dec_enc (s : Ui.State) : dec s.context s.feeds (enc s) = s := dec_mk ..

/-- A translated state whose mode is one of the six declared and whose history index is not
    negative (it starts at 0 and `Back` decrements it only when positive) is the encoding of a
    model state: `update_eq` covers every state the code can be in. -/
theorem enc_dec (c : Nat) (f : List (Str × List Str)) (g : GState) (hm : 0 ≤ g.mode ∧ g.mode ≤ 5)
    (hi : 0 ≤ g.h.index) : enc (dec c f g) = g := by
  obtain ⟨⟨els, ix⟩, m, b⟩ := g
  simp only at hi
  simp [enc, dec, encH, Function.comp_def, encPage_decPage, modeNum_modeOf m hm.1 hm.2, Int.toNat_of_nonneg hi]

def lift (ctx : Nat) (feeds : List (Str × List Str)) (f : Ui.State → Except Panic Ui.State) (g : GState) :
    Except Panic GState :=
  match f (dec ctx feeds g) with
  | .error e => .error e
  | .ok s' => .ok (enc s')

/-- `(link, mediaType, present)` of a selection of the link model. -/
def triple : Option Link.Sel → Str × Option Mime.MediaType × Bool
  | some x => (x.link, some x.mt, true)
  | none => ([], none, false)

def allSome : List (Option GT) → Option (List T)
  | [] => some []
  | none :: _ => none
  | some x :: xs => (allSome xs).map (decT x :: ·)

theorem allSome_map (xs : List T) : allSome (xs.map fun x => some (encT x)) = some xs := by
  induction xs with
  | nil => rfl
  | cons x xs ih => simp [allSome, ih]

/-- What `switchTo` gets: a nil `pub.Tangible` in an `any` is neither Tangible nor Container. -/
def argOf : GArg → Except Panic Ui.Target
  | .tangible (some x) => .ok (.item (decT x))
  | .tangible none => .error (.explicit "can't switch to non-Tangible non-Container")
  | .tangibles xs => match allSome xs with
    | some ys => .ok (.list ys)
    | none => .error .nilDeref

def targetT : Pub.Target → GT
  | .post p => .post p
  | .actor a => .actor a
  | .failure => .failure none

def env (w : World) (ctx : Nat) (feeds : List (Str × List Str)) : GEnv where
  subcommand g name arg :=
    if name = "open".toList ∨ name = "feed".toList then
      match Ui.subcommand w (dec ctx feeds g) name arg with
      | .error e => .error e
      | .ok s' => .ok (enc s', none)
    else .ok (g, some ("unrecognized subcommand: ".toList ++ name))
  openInternally g link := lift ctx feeds (fun s => Ui.openItem w s (Pub.new w (.str link) none)) g
  openExternally g link _ := .ok (enc (Ui.openExternally (dec ctx feeds g) link))
  loadSurroundings g := lift ctx feeds (Ui.loadSurroundings w) g
  switchTo g a :=
    match argOf a with
    | .error e => .error e
    | .ok t => lift ctx feeds (fun s => Ui.switchTo w s t) g
  redraw _ := .ok ()
  Tangible_SelectLink x n :=
    .ok (match Ui.selectLink (decT x) n with
         | some l => (l, none, true)
         | none => ([], none, false))
  Activity_Target a := .ok (some (targetT a.target))
  Post_Creators p := .ok ((p.creators.map ofAorF).map fun x => some (encT x))
  Post_Recipients p := .ok ((p.recipients.map ofAorF).map fun x => some (encT x))
  Activity_Actor a := .ok (some (match a.actor with | .ok ac => .actor ac | .error _ => .failure none))
  Post_Media p := .ok (triple (Link.postMedia (libs w) p.kind p.obj))
  Actor_ProfilePic a := .ok (triple (Link.actorPfp (libs w) a.obj))
  Actor_Banner a := .ok (triple (Link.actorBanner (libs w) a.obj))

theorem lift_mk (c : Nat) (fs : List (Str × List Str)) (f : Ui.State → Except Panic Ui.State)
    (h : History.H Ui.Page) (m : Mode) (b : Str) :
    lift c fs f ⟨encH h, modeNum m, b⟩ = (f ⟨m, b, h, c, fs⟩).map enc := by
  unfold lift; rw [dec_mk]; cases f _ <;> rfl

theorem lift_enc (s : Ui.State) (f : Ui.State → Except Panic Ui.State) :
    lift s.context s.feeds f (enc s) = (f s).map enc := lift_mk ..

section Env
variable (w : World) (c : Nat) (fs : List (Str × List Str)) (s : Ui.State)

theorem redraw_env (g : GState) : (env w c fs).redraw g = .ok () := rfl

theorem loadSurroundings_env (h : History.H Ui.Page) (m : Mode) (b : Str) :
    (env w c fs).loadSurroundings ⟨encH h, modeNum m, b⟩ = (Ui.loadSurroundings w ⟨m, b, h, c, fs⟩).map enc :=
  lift_mk ..

theorem switchTo_item_env (x : T) :
    (env w s.context s.feeds).switchTo (enc s) (.tangible (some (encT x))) = (Ui.switchTo w s (.item x)).map enc := by
  simp only [env, argOf, decT_encT, lift_enc]

/-- `if current != nil { s.switchTo(current) }`. -/
theorem switchTo_current_env (cur : Option T) :
    (if (cur.map encT).isSome = true then (env w s.context s.feeds).switchTo (enc s) (.tangible (cur.map encT))
      else pure (enc s)) =
      Except.map enc (match cur with | some x => Ui.switchTo w s (.item x) | none => .ok s) := by
  cases cur
  · rfl
  · exact switchTo_item_env w s _

theorem switchTo_list_env (xs : List T) :
    (env w s.context s.feeds).switchTo (enc s) (.tangibles (xs.map fun x => some (encT x))) =
      (Ui.switchTo w s (.list xs)).map enc := by
  simp only [env, argOf, allSome_map, lift_enc]

theorem openExternally_env (l : Str) (mt : Option Mime.MediaType) :
    (env w s.context s.feeds).openExternally (enc s) l mt = .ok (enc (Ui.openExternally s l)) := by
  simp only [env, dec_enc]

theorem openInternally_env (l : Str) :
    (env w s.context s.feeds).openInternally (enc s) l = (Ui.openItem w s (Pub.new w (.str l) none)).map enc :=
  lift_enc s fun s => Ui.openItem w s (Pub.new w (.str l) none)

theorem subcommand_env (name arg : Str) :
    (env w s.context s.feeds).subcommand (enc s) name arg =
      if name = "open".toList ∨ name = "feed".toList then (Ui.subcommand w s name arg).map fun s' => (enc s', none)
      else .ok (enc s, some ("unrecognized subcommand: ".toList ++ name)) := by
  simp only [env, dec_enc]
  cases Ui.subcommand w s name arg <;> rfl

theorem Activity_Target_env (a : ActivityM) : (env w c fs).Activity_Target a = .ok (some (targetT a.target)) := rfl

theorem Activity_Actor_env (a : ActivityM) :
    (env w c fs).Activity_Actor a =
      .ok (some (encT (match a.actor with | .ok ac => Item.actor ac | .error _ => Item.failure))) := by
  show Except.ok (some (match a.actor with | .ok ac => GenUpdate.Tangible.actor ac | .error _ => GenUpdate.Tangible.failure none)) = _
  cases a.actor <;> rfl

theorem Post_Creators_env (p : PostM) :
    (env w c fs).Post_Creators p = .ok ((p.creators.map ofAorF).map fun x => some (encT x)) := rfl

theorem Post_Recipients_env (p : PostM) :
    (env w c fs).Post_Recipients p = .ok ((p.recipients.map ofAorF).map fun x => some (encT x)) := rfl

theorem Post_Media_env (p : PostM) : (env w c fs).Post_Media p = .ok (triple (Link.postMedia (libs w) p.kind p.obj)) := rfl

theorem Actor_ProfilePic_env (a : ActorM) :
    (env w c fs).Actor_ProfilePic a = .ok (triple (Link.actorPfp (libs w) a.obj)) := rfl

theorem Actor_Banner_env (a : ActorM) :
    (env w c fs).Actor_Banner a = .ok (triple (Link.actorBanner (libs w) a.obj)) := rfl

theorem SelectLink_env (x : T) (n : Int) :
    (env w c fs).Tangible_SelectLink (encT x) n =
      .ok (match Ui.selectLink x n with
           | some l => (l, none, true)
           | none => ([], none, false)) := by
  simp only [env, decT_encT]
end Env

theorem current_map {α β : Type} (f : α → β) (h : History.H α) :
    GenHistory.Current ⟨h.elements.map f, h.index⟩ = (History.current h).map f := by
  refine (Gen18.current_eq (⟨h.elements.map f, h.index⟩ : History.H β)).trans ?_
  simp only [History.current, List.getElem?_map]
  cases h.elements[h.index]? <;> rfl

theorem current_encH (h : History.H Ui.Page) : GenHistory.Current (encH h) = (History.current h).map encPage :=
  current_map ..

theorem back_encH (h : History.H Ui.Page) : GenHistory.Back (encH h) = .ok (encH (History.back h)) := by
  refine (Gen18.back_eq (⟨h.elements.map encPage, h.index⟩ : History.H GPage)).trans ?_
  simp only [History.back]
  split <;> rfl

theorem forward_encH (h : History.H Ui.Page) : GenHistory.Forward (encH h) = .ok (encH (History.forward h)) := by
  refine (Gen18.forward_eq (⟨h.elements.map encPage, h.index⟩ : History.H GPage)).trans ?_
  simp only [History.forward, List.length_map]
  split <;> rfl

theorem setCurrent_encH (h : History.H Ui.Page) (p : Ui.Page) :
    GenUpdate.setCurrent (encH h) (encPage p) = encH { h with elements := h.elements.set h.index p } := by
  simp only [GenUpdate.setCurrent, encH, Int.toNat_natCast, List.map_set]

theorem feedCurrent_enc (p : Ui.Page) :
    GenFeed.Current (encPage p).feed = .ok ((Feed.current p.feed).map encT) := rfl

def mapF {α β : Type} (h : α → β) (f : Feed.F α) : Feed.F β :=
  ⟨fun i => (f.feed i).map h, f.upper, f.lower, f.index⟩

/-- An encoded feed is a model feed over the translated items: the equalities of `Props/Gen18.lean` apply to it. -/
theorem encFeed_eq (f : Feed.F T) : encFeed f = Gen18.toGenF (mapF encT f) := rfl

theorem moveUp_map {α β : Type} (h : α → β) (f : Feed.F α) : Feed.moveUp (mapF h f) = mapF h (Feed.moveUp f) :=
  (apply_ite (mapF h) (Feed.contains f (-1) = true) { f with index := f.index - 1 } f).symm

theorem moveDown_map {α β : Type} (h : α → β) (f : Feed.F α) : Feed.moveDown (mapF h f) = mapF h (Feed.moveDown f) :=
  (apply_ite (mapF h) (Feed.contains f 1 = true) { f with index := f.index + 1 } f).symm

theorem moveToCenter_map {α β : Type} (h : α → β) (f : Feed.F α) :
    Feed.moveToCenter (mapF h f) = mapF h (Feed.moveToCenter f) :=
  (apply_ite (mapF h) (Feed.contains f (-f.index) = true) { f with index := 0 } f).symm

theorem moveUp_enc (f : Feed.F T) : GenFeed.MoveUp (encFeed f) = .ok (encFeed (Feed.moveUp f)) := by
  rw [encFeed_eq, Gen18.moveUp_eq, moveUp_map, encFeed_eq]

theorem moveDown_enc (f : Feed.F T) : GenFeed.MoveDown (encFeed f) = .ok (encFeed (Feed.moveDown f)) := by
  rw [encFeed_eq, Gen18.moveDown_eq, moveDown_map, encFeed_eq]

theorem moveToCenter_enc (f : Feed.F T) :
    GenFeed.MoveToCenter (encFeed f) = .ok (encFeed (Feed.moveToCenter f)) := by
  rw [encFeed_eq, Gen18.moveToCenter_eq, moveToCenter_map, encFeed_eq]

theorem bind_current (h : History.H Ui.Page) {β : Type} (K : GPage → Except Panic β) :
    (do let p ← GenHistory.Current (encH h); K p) =
      match History.current h with
      | .error e => .error e
      | .ok p => K (encPage p) := by
  rw [current_encH]; cases History.current h <;> rfl

/-- `s.h.Current().feed.Current()`: the highlighted item. -/
theorem bind_currentItem (s : Ui.State) {β : Type} (K : Option GT → Except Panic β) :
    (do let p ← GenHistory.Current (enc s).h; let c ← GenFeed.Current p.feed; K c) =
      match currentItem s with
      | .error e => .error e
      | .ok cur => K (cur.map encT) := by
  rw [enc_h, bind_current, currentItem]; cases History.current s.hist <;> rfl

theorem str_empty : Go.str "" = [] := rfl

theorem modeNum_loading (m : Mode) : (modeNum m = GenUpdate.loading) = (m = .loading) :=
  propext (modeNum_inj (m' := .loading))
theorem modeNum_command (m : Mode) : (modeNum m = GenUpdate.command) = (m = .command) :=
  propext (modeNum_inj (m' := .command))
theorem modeNum_selection (m : Mode) : (modeNum m = GenUpdate.selection) = (m = .selection) :=
  propext (modeNum_inj (m' := .selection))

/-- Turns the tests of the code into those of the model, takes the branches that the facts given decide, and runs
    what is left of the `do` block. -/
macro "pick" "[" ts:Lean.Parser.Tactic.simpLemma,* "]" : tactic =>
  `(tactic| simp only [enc_mode, enc_buffer, modeNum_loading, modeNum_command, modeNum_selection,
      GenUpdate.enterKey, GenUpdate.escapeKey, GenUpdate.backspaceKey, Char.reduceToNat, Nat.reduceEqDiff,
      decide_eq_true_eq, ↓reduceIte, pure, Except.pure, bind, Except.bind, Except.map, redraw_env, str_empty, $ts,*])

theorem upd_loading (w : World) (s : Ui.State) (k : Nat) (hm : s.mode = .loading) :
    GenUpdate.Update (env w s.context s.feeds) (enc s) k = (Ui.update w s k).map enc := by
  unfold GenUpdate.Update Ui.update
  pick [hm]

theorem upd_esc (w : World) (s : Ui.State) (hm : s.mode ≠ .loading) :
    GenUpdate.Update (env w s.context s.feeds) (enc s) 27 = (Ui.update w s 27).map enc := by
  unfold GenUpdate.Update Ui.update
  pick [hm]
  rfl

theorem upd_backspace (w : World) (s : Ui.State) (hm : s.mode ≠ .loading) :
    GenUpdate.Update (env w s.context s.feeds) (enc s) 127 = (Ui.update w s 127).map enc := by
  unfold GenUpdate.Update Ui.update
  by_cases hb : s.buffer = []
  · pick [hm, hb, List.isEmpty_nil]
    rfl
  · by_cases hd : s.buffer.dropLast = [] <;>
      pick [hm, hb, hd, Go.runes, Gen16.sliceTo_dropLast s.buffer hb, Go.runesString, Bool.and_eq_true, List.isEmpty_iff,
        decide_true, decide_false, true_and, false_and, Bool.false_eq_true]
    · split <;> rfl
    · rfl

theorem upd_colon (w : World) (s : Ui.State) (hm : s.mode ≠ .loading) (hc : s.mode ≠ .command) :
    GenUpdate.Update (env w s.context s.feeds) (enc s) 58 = (Ui.update w s 58).map enc := by
  unfold GenUpdate.Update Ui.update
  pick [hm, hc]
  rfl

theorem upd_digit (w : World) (s : Ui.State) (k : Nat) (hm : s.mode ≠ .loading) (hc : s.mode ≠ .command)
    (h0 : 48 ≤ k) (h9 : k ≤ 57) :
    GenUpdate.Update (env w s.context s.feeds) (enc s) k = (Ui.update w s k).map enc := by
  have h27 : k ≠ 27 := by omega
  have h127 : k ≠ 127 := by omega
  have h58 : k ≠ 58 := by omega
  unfold GenUpdate.Update Ui.update
  pick [hm, hc, h27, h127, h58, h0, h9, Go.byteString, Bool.and_eq_true, ge_iff_le, and_self, ne_eq]
  by_cases hs : s.mode = .selection <;> simp only [hs, not_true_eq_false, not_false_eq_true, if_true, if_false] <;> rfl

theorem upd_command_other (w : World) (s : Ui.State) (k : Nat) (hm : s.mode = .command)
    (h27 : k ≠ 27) (h127 : k ≠ 127) (h13 : k ≠ 13) :
    GenUpdate.Update (env w s.context s.feeds) (enc s) k = (Ui.update w s k).map enc := by
  unfold GenUpdate.Update Ui.update
  pick [hm, h27, h127, h13, Go.byteString, reduceCtorEq]
  rfl

theorem cut_char (d : Char) (b : Str) :
    Go.Strings.cut [d] b =
      if b.contains d then some (b.takeWhile (· != d), (b.dropWhile (· != d)).drop 1) else none := by
  induction b with
  | nil => rfl
  | cons c t ih =>
    by_cases hc : c = d
    · subst hc
      simp [Go.Strings.cut, List.isPrefixOf]
    · simp [Go.Strings.cut, List.isPrefixOf, ih, hc, Ne.symm hc]

theorem splitN_space (b : Str) :
    Go.Strings.splitN b (Go.str " ") 2 =
      match splitCommand b with
      | some na => [na.1, na.2]
      | none => [b] := by
  have e5 : (2 : Int).toNat - 1 = 1 := rfl
  simp only [Go.Strings.splitN, Gen16.str_sp, e5, Int.reduceEq, Int.reduceLT, reduceCtorEq, if_false, Go.Strings.splitAux, cut_char,
    splitCommand]
  cases b.contains ' ' <;> rfl

theorem upd_command_enter (w : World) (s : Ui.State) (hm : s.mode = .command) :
    GenUpdate.Update (env w s.context s.feeds) (enc s) 13 = (Ui.update w s 13).map enc := by
  unfold GenUpdate.Update Ui.update
  pick [hm, splitN_space, reduceCtorEq, subcommand_env]
  cases splitCommand s.buffer with
  | none => rfl
  | some na =>
    obtain ⟨name, arg⟩ := na
    have i0 : Go.index [name, arg] 0 = .ok name := rfl
    have i1 : Go.index [name, arg] 1 = .ok arg := rfl
    have l2 : Go.len [name, arg] = 2 := rfl
    simp only [i0, i1, l2, if_true]
    by_cases hn : name = "open".toList ∨ name = "feed".toList
    · simp only [hn, if_true]
      cases Ui.subcommand w s name arg <;> rfl
    · simp only [if_false, Ui.subcommand, (not_or.mp hn).1, (not_or.mp hn).2]
      rfl

/-- The fold of `Ui.atoi`, from any start. -/
def val (cs : List Char) (n : Nat) : Nat := cs.foldl (fun acc c => 10 * acc + (c.toNat - '0'.toNat)) n

theorem val_ge (cs : List Char) (n : Nat) : n ≤ val cs n := by
  induction cs generalizing n with
  | nil => exact Nat.le_refl n
  | cons c cs ih =>
    have := ih (10 * n + (c.toNat - '0'.toNat))
    simp only [val, List.foldl_cons] at this ⊢
    omega

theorem digitsLoop_digits (cs : List Char) (hd : ∀ c ∈ cs, c.isDigit = true) (n : Nat) (hn : n < 2 ^ 64) :
    Go.Strconv.digitsLoop cs n = if val cs n < 2 ^ 64 then .ok (val cs n) else .error .range := by
  induction cs generalizing n with
  | nil => exact (if_pos hn).symm
  | cons c cs ih =>
    have hv : val (c :: cs) n = val cs (n * 10 + (c.toNat - '0'.toNat)) := by
      simp only [val, List.foldl_cons, Nat.mul_comm]
    -- the value only grows: once a prefix no longer fits 64 bits, the whole does not
    have hge := val_ge cs (n * 10 + (c.toNat - '0'.toNat))
    rw [Go.Strconv.digitsLoop, if_pos (hd c List.mem_cons_self), hv]
    split
    · rw [if_neg (by omega)]
    · dsimp only
      split
      · rw [if_neg (by omega)]
      · exact ih (fun x hx => hd x (List.mem_cons_of_mem _ hx)) _ (by omega)

theorem atoi_digits (b : Str) (hne : b ≠ []) (hd : ∀ ch ∈ b, ch.isDigit = true) :
    Go.Strconv.atoi b =
      match Ui.atoi b with
      | some n => (n, none)
      | none => (2 ^ 63 - 1, some .range) := by
  cases b with
  | nil => exact absurd rfl hne
  | cons c t =>
    have hc : c.isDigit = true := hd c (by simp)
    have hm : c ≠ '-' := by intro h; subst h; exact absurd hc (by decide)
    have hp : c ≠ '+' := by intro h; subst h; exact absurd hc (by decide)
    have hv : Ui.atoi (c :: t) = if val (c :: t) 0 < 2 ^ 63 then some ((val (c :: t) 0 : Nat) : Int) else none := rfl
    simp only [Go.Strconv.atoi, List.head?_cons, Option.some.injEq, hm, hp, or_self, if_false, decide_false,
      reduceCtorEq, digitsLoop_digits (c :: t) hd 0 (by omega), hv]
    by_cases h1 : val (c :: t) 0 < 2 ^ 63 <;> by_cases h2 : val (c :: t) 0 < 2 ^ 64 <;> simp [h1, h2] <;> omega

theorem upd_select (w : World) (s : Ui.State) (k : Nat) (hm : s.mode = .selection) (hk : k = 46 ∨ k = 13)
    (hne : s.buffer ≠ []) (hd : ∀ ch ∈ s.buffer, ch.isDigit = true) :
    GenUpdate.Update (env w s.context s.feeds) (enc s) k = (Ui.update w s k).map enc := by
  unfold GenUpdate.Update Ui.update
  rcases hk with rfl | rfl <;>
  · pick [hm, reduceCtorEq, Nat.reduceLeDiff, decide_true, decide_false, Bool.false_eq_true,
      Bool.false_and, Bool.or_true, Bool.true_or, Bool.or_false, ge_iff_le,
      atoi_digits s.buffer hne hd, enc_h, current_encH, currentItem]
    cases History.current s.hist with
    | error e => rfl
    | ok page =>
      simp only [feedCurrent_enc]
      rcases Feed.current page.feed with _ | x
      · cases Ui.atoi s.buffer <;> rfl
      cases Ui.atoi s.buffer with
      | none => rfl
      | some n =>
        simp only [Option.map_some, Option.isNone_none, Option.isSome_some, Bool.and_self, if_true, Go.deref,
          SelectLink_env, openInternally_env, openExternally_env]
        cases selectLink x n <;> rfl

/-- `o`, `p`, `b`: the hook is started with the link the item has, if it has one. -/
theorem open_triple (s : Ui.State) (r : Option Link.Sel) :
    (if (triple r).2.2 = true then (.ok (enc (openExternally s (triple r).1)) : Except Panic GState) else pure (enc s)) =
      Except.map enc (match r with | some x => .ok (openExternally s x.link) | none => .ok s) := by
  cases r <;> rfl

theorem upd_switch (w : World) (s : Ui.State) (k : Nat)
    (hl : s.mode ≠ .loading) (hc : s.mode ≠ .command) (hs : s.mode ≠ .selection)
    (h27 : k ≠ 27) (h127 : k ≠ 127) (h58 : k ≠ 58) (hd : ¬ (48 ≤ k ∧ k ≤ 57)) :
    GenUpdate.Update (env w s.context s.feeds) (enc s) k = (Ui.keySwitch w s k).map enc := by
  unfold GenUpdate.Update Ui.keySwitch
  -- One pass decides the tests in front of the `switch` and puts, all along the chain of keys, for each action
  -- what it does on encoded arguments; then the keys: those that move in the feed, `h` and `l`, those that act
  -- on the highlighted item, and every other byte.  `-iota`: no `match` met on the way has a constructor to
  -- reduce on, and `simp`'s attempts at the equations of each of them are what would cost most.
  simp -iota only [enc_mode, modeNum_loading, modeNum_command, modeNum_selection, hl, hc, hs, h27, h127, h58, hd,
    GenUpdate.escapeKey, GenUpdate.backspaceKey, decide_false, Bool.false_eq_true, ↓reduceIte, Char.reduceToNat,
    ge_iff_le, decide_eq_true_eq, Bool.and_eq_true, bind_currentItem,
    Activity_Target_env, Post_Creators_env, Post_Recipients_env, Activity_Actor_env, Post_Media_env, Actor_ProfilePic_env, Actor_Banner_env,
    switchTo_list_env, switchTo_item_env, switchTo_current_env, openExternally_env, redraw_env, Gen16v.ok_bind, bind_pure, open_triple]
  by_cases c1 : k = 107 ∨ k = 106 ∨ k = 103
  · rcases c1 with rfl | rfl | rfl <;>
    · simp -iota only [Nat.reduceEqDiff, ↓reduceIte, withFeed, enc_h, enc_buffer, bind_current]
      cases History.current s.hist with
      | error e => rfl
      | ok page =>
        simp only [encPage_feed, encPage_rest, moveUp_enc, moveDown_enc, moveToCenter_enc, mk_encPage, setCurrent_encH,
          Gen16v.ok_bind, loadSurroundings_env]
        rfl
  by_cases c2 : k = 104 ∨ k = 108
  · rcases c2 with rfl | rfl <;>
    · simp -iota only [Nat.reduceEqDiff, ↓reduceIte, enc_h, back_encH, forward_encH]
      rfl
  by_cases c3 : k = 32 ∨ k = 99 ∨ k = 114 ∨ k = 97 ∨ k = 111 ∨ k = 112 ∨ k = 98
  · rcases c3 with rfl | rfl | rfl | rfl | rfl | rfl | rfl <;>
    · simp -iota only [Nat.reduceEqDiff, ↓reduceIte, or_true, or_false, decide_true, decide_false]
      -- what is left are the type switches of the code and of the model, on every kind of item (for an activity,
      -- on every kind of target)
      cases currentItem s with
      | error e => rfl
      | ok cur =>
        rcases cur with _ | x
        · rfl
        · cases x with
          | activity a => rcases a with ⟨_, _, _, _ | _ | _, _, _⟩ <;> rfl
          | _ => rfl
  simp only [not_or] at c1 c2 c3
  simp -iota only [c1, c2, c3, ↓reduceIte, or_self]
  rfl

/-- In selection mode a key that is neither special nor a digit nor `.` nor Enter resets the mode
    and the buffer and is then handled as in normal mode (the fall-through of the source), whatever
    the actions are. -/
theorem fallthrough (e : GEnv) (g : GState) (k : Nat) (hm : g.mode = GenUpdate.selection)
    (h27 : k ≠ 27) (h127 : k ≠ 127) (h58 : k ≠ 58) (hd : ¬ (48 ≤ k ∧ k ≤ 57)) (h46 : k ≠ 46) (h13 : k ≠ 13) :
    GenUpdate.Update e g k = GenUpdate.Update e { g with mode := GenUpdate.normal, buffer := [] } k := by
  unfold GenUpdate.Update
  -- The `let`s of `Update` become local definitions, and the thirteenth, the final `switch`, a mere name: both
  -- sides end in it, applied to the same state, and `simp` never walks through it.
  extract_lets _ _ _ _ _ _ _ _ _ _ _ _ switch
  clear_value switch
  simp (config := { zetaDelta := true }) only [hm, GenUpdate.loading, GenUpdate.normal, GenUpdate.command,
    GenUpdate.selection, GenUpdate.enterKey, GenUpdate.escapeKey, GenUpdate.backspaceKey, Int.reduceEq,
    Char.reduceToNat, decide_false, decide_true, Bool.false_eq_true, ↓reduceIte, Bool.or_self, ge_iff_le, str_empty,
    Bool.and_eq_true, decide_eq_true_eq, h27, h127, h58, hd, h46, h13]

theorem update_plain (w : World) (s : Ui.State) (k : Nat)
    (hl : s.mode ≠ .loading) (hc : s.mode ≠ .command) (hs : s.mode ≠ .selection)
    (h27 : k ≠ 27) (h127 : k ≠ 127) (h58 : k ≠ 58) (hd : ¬ (48 ≤ k ∧ k ≤ 57)) :
    Ui.update w s k = Ui.keySwitch w s k := by
  unfold Ui.update
  simp only [hl, hc, hs, if_false, h27, h127, h58, Char.reduceToNat, hd]

/-- **The translated `Update` is the model's `update`**, the actions being the model's own
    functions (`env`): on every state of the model — every mode, every history (also the empty
    one: the panic of `Current()`), every feed, every highlighted item — and every key byte, the
    translated code run on the encoded state ends in the encoding of the state `Ui.update`
    computes, or in the same panic.  The one hypothesis is the part of the model's invariant
    (`Ui.Inv`) that `strconv.Atoi` needs: in selection mode the buffer is a non-empty digit string
    (on other strings the model's `atoi` is not `strconv.Atoi`). -/
theorem update_eq (w : World) (s : Ui.State) (k : Nat)
    (hsel : s.mode = .selection → s.buffer ≠ [] ∧ ∀ ch ∈ s.buffer, ch.isDigit = true) :
    GenUpdate.Update (env w s.context s.feeds) (enc s) k = (Ui.update w s k).map enc := by
  by_cases hl : s.mode = .loading
  · exact upd_loading w s k hl
  by_cases h27 : k = 27
  · subst h27; exact upd_esc w s hl
  by_cases h127 : k = 127
  · subst h127; exact upd_backspace w s hl
  by_cases hc : s.mode = .command
  · by_cases h13 : k = 13
    · subst h13; exact upd_command_enter w s hc
    · exact upd_command_other w s k hc h27 h127 h13
  by_cases h58 : k = 58
  · subst h58; exact upd_colon w s hl hc
  by_cases hd : 48 ≤ k ∧ k ≤ 57
  · exact upd_digit w s k hl hc hd.1 hd.2
  by_cases hs : s.mode = .selection
  · by_cases hk : k = 46 ∨ k = 13
    · exact upd_select w s k hs hk (hsel hs).1 (hsel hs).2
    · rw [fallthrough _ _ k (by rw [enc_mode, hs]; rfl) h27 h127 h58 hd (hk ∘ .inl) (hk ∘ .inr),
        C07.update_key w s k hl hc ⟨h27, h127, h58, hd, hk⟩, if_pos hs]
      exact upd_switch w { s with mode := .normal, buffer := [] } k (by simp) (by simp) (by simp) h27 h127 h58 hd
  · rw [update_plain w s k hl hc hs h27 h127 h58 hd]
    exact upd_switch w s k hl hc hs h27 h127 h58 hd

end Gen07
