import Model.Ansi
import Model.GoText
import Generated.GoAnsih
import Proofs.Gen13

/-
  The tie by translation for C13 and C14: the horizontal layout functions of ansi/ansi.go
  (collapse, Apply, Indent, Pad, DumbWrap, Wrap, lineIsOnlyWhitespace, Snip) are translated from
  the source on every run (`extract/go2lean8.go` → `Generated/GoAnsih.lean`, namespace
  `GenAnsiH`); the theorems below say the generated code computes what the hand-written model
  (`Model/Ansi.lean`) computes, so the C13 and C14 theorems hold of the code as translated
  (`Props/GenT13.lean`).

  `expand` (the regular expression) is a parameter of the translated functions.  The `_cells`
  theorems hold for EVERY list of matches the parameter may return for the text (each match given
  as the model's `RawCell`: the three strings `match[0]`, `match[1]`, `match[2]`, the last of one
  code point, which is what `(.)` captures); the `_eq` theorems instantiate it with the model's
  scanner `Ansi.expand`.  Every right-hand side is `.ok …`: the translated functions do not panic
  (`Pad` never reaches `strings.Repeat` with a negative count, `Wrap` never indexes an empty
  `[]rune`, `Snip` never slices below zero), except `Snip` for a negative height
  (`make([]string, 0, height)`), where the model has the same panic.
  `int` is the unbounded `Int` of `Model/GoSem.lean`, in the translation as in the model: the
  equalities carry over to the 64-bit code as long as `length - lineLength` and the like do not
  wrap, i.e. |width| + number of matches < 2^63 (callers pass terminal widths; a `Pad` to a length
  within a line's length of -2^63 would wrap to a huge positive count and `strings.Repeat` would
  panic — outside what the translation and the model describe).
-/

namespace Gen13
open Str Ansi Gen13P

/-- A match of the model as the translated code sees it. -/
def toMatch (c : RawCell) : Go.Match := ⟨c.full, c.pre, [c.letter]⟩

/-- The regular expression as the translated code sees it: the model's scanner. -/
def goExpand (s : Str) : List Go.Match := (expand s).map toMatch

/-- The pattern `expand` compiles in the source is the one `Ansi.expand` transcribes (and the
    source asks for all its matches). -/
theorem expandPattern_eq :
    GenAnsiH.expandPattern = "(?s)((?:\\x1b\\[.*?m)*)(.)(?:\\x1b\\[0m)?" := rfl

theorem collapse_eq (cells : List RawCell) :
    GenAnsiH.collapse (cells.map toMatch) = .ok (collapse cells) :=
  Gen13P.collapse_eq cells

theorem apply_cells (ex : Str → List Go.Match) (text style : Str) (cells : List RawCell)
    (hex : ex text = cells.map toMatch) :
    GenAnsiH.Apply ex text style = .ok ((cells.map fun m =>
      if m.letter = '\n' then ['\n']
      else ESC :: '[' :: (style ++ 'm' :: (m.pre ++ m.letter :: reset))).flatten) :=
  Gen13P.apply_eq ex text style cells hex

theorem apply_eq (text style : Str) :
    GenAnsiH.Apply goExpand text style = .ok (Ansi.apply text style) :=
  applyC_expand text style ▸ Gen13P.apply_eq goExpand text style (expand text) rfl

theorem indent_cells (ex : Str → List Go.Match) (text pfx : Str) (first : Bool)
    (cells : List RawCell) (hex : ex text = cells.map toMatch) :
    GenAnsiH.Indent ex text pfx first = .ok ((if first then pfx else []) ++
      (cells.map fun m => if m.letter = '\n' then '\n' :: pfx else m.full).flatten) :=
  Gen13P.indent_eq ex text pfx first cells hex

theorem indent_eq (text pfx : Str) (first : Bool) :
    GenAnsiH.Indent goExpand text pfx first = .ok (Ansi.indent text pfx first) :=
  indentC_expand text pfx first ▸ Gen13P.indent_eq goExpand text pfx first (expand text) rfl

/-- For every length, also zero, negative and huge ones: no panic. -/
theorem pad_cells (ex : Str → List Go.Match) (text : Str) (n : Int) (cells : List RawCell)
    (hex : ex text = cells.map toMatch) :
    GenAnsiH.Pad ex text n = .ok (joinNL ((cellLines cells).map (padLine · n))) := by
  rw [pad_loop ex text n cells hex, pad_fold, padFrom_zero]
  rfl

theorem pad_eq (text : Str) (n : Int) : GenAnsiH.Pad goExpand text n = .ok (Ansi.pad text n) :=
  pad_cells goExpand text n (expand text) rfl

theorem dumbWrap_cells (ex : Str → List Go.Match) (text : Str) (w : Int) (cells : List RawCell)
    (hex : ex text = cells.map toMatch) :
    GenAnsiH.DumbWrap ex text w = .ok (cells.foldl (dumbWrapStep w) ([], 0)).1 :=
  Gen13P.dumbWrap_eq ex text w cells hex

theorem dumbWrap_eq (text : Str) (w : Int) :
    GenAnsiH.DumbWrap goExpand text w = .ok (Ansi.dumbWrap text w) :=
  dumbWrapC_expand text w ▸ Gen13P.dumbWrap_eq goExpand text w (expand text) rfl

theorem wrap_cells (ex : Str → List Go.Match) (text : Str) (n : Int) (cells : List RawCell)
    (hex : ex text = cells.map toMatch) :
    GenAnsiH.Wrap ex text n = .ok (joinNL ((wrapLines cells n).map collapse)) :=
  Gen13P.wrap_loop ex text n cells hex

theorem wrap_eq (text : Str) (n : Int) : GenAnsiH.Wrap goExpand text n = .ok (Ansi.wrap text n) :=
  wrapC_expand text n ▸ Gen13P.wrap_loop goExpand text n (expand text) rfl

theorem lineIsOnlyWhitespace_eq (cells : List RawCell) :
    GenAnsiH.lineIsOnlyWhitespace (cells.map toMatch) = .ok (lineIsOnlyWhitespace cells) :=
  Gen13P.lineIsOnlyWhitespace_eq cells

/-- Equal as `Except` values: the same result, and the same panic for a negative height. -/
theorem snip_eq (text : Str) (w h : Int) (e : Str) :
    GenAnsiH.Snip goExpand text w h e = Ansi.snip text w h e :=
  Gen13P.snip_eq text w h e

/-- The translated `Snip` panics exactly for a negative height (`make([]string, 0, height)`),
    whatever the width. -/
theorem snip_panics_iff (text : Str) (w h : Int) (e : Str) :
    (∃ p, GenAnsiH.Snip goExpand text w h e = .error p) ↔ h < 0 := by
  rw [snip_eq]
  unfold Ansi.snip
  by_cases hh : h < 0 <;> simp [hh]

end Gen13
