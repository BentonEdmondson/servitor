import Model
import Proofs.Cells

/-
  Canonical styled text, the rendering of well-formed cells (DESIGN.md §5.0): what the scanner,
  `Apply`, `Indent` and the terminal make of it.
-/

namespace CellsProps
open Str Ansi Cells

/-- The regex scanner run on the rendering of well-formed cells returns exactly those cells. -/
theorem expand_render (cs : List Cell) (h : ∀ c ∈ cs, c.ok = true) :
    expand (render cs) = cs.map Cell.raw :=
  Cells.expand_render cs h

theorem render_append (a b : List Cell) : render (a ++ b) = render a ++ render b :=
  Cells.render_append a b

/-- `Apply` on canonical text adds the attribute in front of every non-newline cell. -/
theorem apply_render (cs : List Cell) (h : ∀ c ∈ cs, c.ok = true) (a : Str) :
    apply (render cs) a = render (cs.map (addAttr a)) :=
  Cells.apply_render cs h a

theorem addAttr_ok (c : Cell) (a : Str) (hc : c.ok = true) (ha : sgrOk a = true) :
    (addAttr a c).ok = true :=
  Cells.addAttr_ok c a hc ha

/-- The terminal displays each cell's character with exactly the cell's attributes and is
    neutral after every cell, in particular at every line break and at the end. -/
theorem term_render (cs : List Cell) (h : ∀ c ∈ cs, c.ok = true) :
    term (render cs) = (cs.map fun c => (c.ch, c.attrs), []) :=
  Cells.term_render cs h

/-- Hence canonical text never leaves an attribute active across a line break or at the end. -/
theorem canon_neutral (s : Str) (h : Canon s) : neutralAtBreaks s = true := by
  obtain ⟨cs, hcs, rfl⟩ := h
  unfold neutralAtBreaks
  simp only [Cells.term_render cs hcs, List.isEmpty_nil, Bool.true_and, List.all_eq_true]
  intro x hx
  simp only [List.mem_map] at hx
  obtain ⟨c, hc, rfl⟩ := hx
  rcases ((cell_ok_iff c).1 (hcs c hc)).2.2 with h | h <;> simp [h]

theorem canon_append (s t : Str) (hs : Canon s) (ht : Canon t) : Canon (s ++ t) := by
  rw [canon_eq_rendered] at *
  exact rendered_append hs ht

theorem canon_plain (s : Str) (h : ESC ∉ s) : Canon s :=
  ⟨plain s, plain_ok s h, (render_plain s).symm⟩

theorem canon_splitNL (s : Str) (h : Canon s) : ∀ l ∈ splitNL s, Canon l := by
  rw [canon_eq_rendered] at *
  exact rendered_splitNL (fun _ h => h) h

theorem canon_joinNL (ls : List Str) (h : ∀ l ∈ ls, Canon l) : Canon (joinNL ls) := by
  rw [canon_eq_rendered] at *
  exact rendered_joinNL (by decide) ls h

theorem indent_render (cs : List Cell) (h : ∀ c ∈ cs, c.ok = true) (pfx : Str) (hp : ESC ∉ pfx ∧ '\n' ∉ pfx)
    (first : Bool) :
    indent (render cs) pfx first =
      render ((if first then plain pfx else []) ++
        (cs.map fun c => if c.ch = '\n' then c :: plain pfx else [c]).flatten) := by
  rw [indent, expand_render cs h, render_append, render_flatten, List.map_map, List.map_map]
  congr 1
  · cases first
    · rfl
    · exact (render_plain pfx).symm
  · refine congrArg List.flatten (List.map_congr_left fun c hc => ?_)
    rw [Function.comp_apply, Function.comp_apply]
    exact indent_cell c (h c hc) pfx

/-- Non-vacuity: bold "ab" is canonical and is displayed bold. -/
example : term (Style.bold "ab".toList) = ([('a', [['1']]), ('b', [['1']])], []) := by decide +kernel

end CellsProps
