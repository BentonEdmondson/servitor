import Model
import Generated.GoObject
import Props.C17
import Props.Gen17

/-
  Property theorems stated directly about the code as translated from the Go source
  (`Generated/GoObject.lean`): the C17 theorems carried across the equalities of `Props/Gen17.lean`.
  Nothing here mentions the hand-written model in its conclusion except as the specification.
-/

namespace GenT17

variable {Time Url : Type}

/-- The translated `GetString` returns a value iff the key holds a string that is non-empty once
    sanitised, and then returns exactly the sanitised string. -/
theorem getString_ok (L : Obj.Libs Time Url) (o : List (Str × JVal)) (k v : Str) :
    GenObject.GetString L o k = .ok v ↔
      ∃ s, Obj.lookup o k = some (.str s) ∧ v = Ansi.scrub s ∧ v ≠ [] := by
  rw [Gen17.getString_eq]
  exact C17.getString_ok o k v

/-- The translated `GetString` reports "absent" exactly for a missing key, null, or a string that
    is empty once sanitised. -/
theorem getString_absent (L : Obj.Libs Time Url) (o : List (Str × JVal)) (k : Str) :
    GenObject.GetString L o k = .error .absent ↔
      (Obj.lookup o k = none ∨ Obj.lookup o k = some .null ∨
        ∃ s, Obj.lookup o k = some (.str s) ∧ Ansi.scrub s = []) := by
  rw [Gen17.getString_eq]
  exact C17.getString_absent o k

/-- A string the translated `GetString` returns is non-empty and free of control characters other
    than newline. -/
theorem getString_sanitised (L : Obj.Libs Time Url) (o : List (Str × JVal)) (k v : Str)
    (h : GenObject.GetString L o k = .ok v) :
    v ≠ [] ∧ ∀ c ∈ v, c = '\n' ∨ Uni.isControl c = false := by
  rw [Gen17.getString_eq] at h
  exact C17.getString_sanitised o k v h

/-- The translated `GetNumber` (floating-point operations on the bit pattern) returns `n` iff the
    value at the key is a double whose exact value is the natural number `n < 2^64`: never a
    rounded, truncated or wrapped number. -/
theorem getNumber_exact (L : Obj.Libs Time Url) (o : List (Str × JVal)) (k : Str) (n : Nat)
    (hbits : ∀ bits, Obj.lookup o k = some (.num bits) → bits < 2 ^ 64) :
    GenObject.GetNumber L o k = .ok n ↔
      ∃ bits, Obj.lookup o k = some (.num bits) ∧ C17.Denotes bits n ∧ n < 2 ^ 64 := by
  rw [Gen17.getNumber_eq L o k hbits]
  exact C17.getNumber_exact o k n

/-- The translated `GetNumber` reports "absent" exactly for a missing key or `null`. -/
theorem getNumber_absent (L : Obj.Libs Time Url) (o : List (Str × JVal)) (k : Str)
    (hbits : ∀ bits, Obj.lookup o k = some (.num bits) → bits < 2 ^ 64) :
    GenObject.GetNumber L o k = .error .absent ↔
      (Obj.lookup o k = none ∨ Obj.lookup o k = some .null) := by
  rw [Gen17.getNumber_eq L o k hbits]
  exact C17.getNumber_absent o k

/-- Non-vacuity: 25.0 is 25, -5.0 and 2^64 are refused (bit patterns of the doubles). -/
example : (match GenObject.GetNumber (Time := Unit) (Url := Unit) ⟨fun _ => none, fun _ => none⟩
    [(['k'], .num 0x4039000000000000)] ['k'] with | .ok n => n == 25 | .error _ => false) = true := by
  decide +kernel
example : (match GenObject.GetNumber (Time := Unit) (Url := Unit) ⟨fun _ => none, fun _ => none⟩
    [(['k'], .num 0x43F0000000000000)] ['k'] with | .ok _ => false | .error e => e == .wrong) = true := by
  decide +kernel
example : (match GenObject.GetNumber (Time := Unit) (Url := Unit) ⟨fun _ => none, fun _ => none⟩
    [(['k'], .num 0xC014000000000000)] ['k'] with | .ok _ => false | .error e => e == .wrong) = true := by
  decide +kernel

end GenT17
