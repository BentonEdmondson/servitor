import Model.Link
import Generated.GoLink
import Props.C20b
import Props.Gen20

/-
  Property theorems stated directly about `pub/link.go` as translated from the source
  (`Generated/GoLink.lean`): the C20b theorems about which link is chosen and which media type is
  handed to the hook, carried across the equalities of `Props/Gen20.lean`.  The hand-written
  link model (`Link.*`) appears only in the two bridges `matches_iff` and `selectBest_of_gen`.
-/

namespace GenT20
open Obj

def Matches (l : GenLink.Link) (sup : Str) : Prop := ∃ m, l.mediaType = .ok m ∧ m.supertype = sup

theorem matches_iff (l : GenLink.Link) (sup : Str) :
    Matches l sup ↔ Link.supertypeMatches (Gen20.conv l) sup = .ok true := by
  obtain ⟨k, m, u, a, h, w⟩ := l
  unfold Matches Link.supertypeMatches Gen20.conv
  rcases m with (_ | _) | m <;> simp

theorem selectBest_of_gen {ls : List GenLink.Link} {sup : Str} {l : GenLink.Link}
    (h : GenLink.SelectBestLink ls sup = .ok (.ok l)) :
    Link.selectBest (ls.map Gen20.conv) sup = .ok (Gen20.conv l) := by
  rw [Gen20.selectBest_eq] at h
  cases hb : Link.selectBest (ls.map Gen20.conv) sup with
  | error e => rw [hb] at h; cases h
  | ok b =>
    rw [hb] at h
    obtain rfl : Gen20.back b = l := Except.ok.inj (Except.ok.inj h)
    rw [Gen20.conv_back]

/-- `SelectBestLink` never panics: `links[0]` and `links[1:]` are only reached with a non-empty
    list. -/
theorem selectBestLink_no_panic (ls : List GenLink.Link) (sup : Str) :
    ∃ r, GenLink.SelectBestLink ls sup = .ok r := by
  rw [Gen20.selectBest_eq]; exact ⟨_, rfl⟩

/-- `SelectFirstLink` never panics. -/
theorem selectFirstLink_no_panic (ls : List GenLink.Link) :
    ∃ r, GenLink.SelectFirstLink ls = .ok r := by
  rw [Gen20.selectFirst_eq]; exact ⟨_, rfl⟩

/-- `SelectBestLink` returns one of the candidates it was given. -/
theorem selectBestLink_mem (ls : List GenLink.Link) (sup : Str) (l : GenLink.Link)
    (h : GenLink.SelectBestLink ls sup = .ok (.ok l)) : l ∈ ls := by
  have hm := C20b.selectBest_mem _ _ _ (selectBest_of_gen h)
  obtain ⟨l0, hl0, he⟩ := List.mem_map.mp hm
  obtain rfl : l0 = l := by rw [← Gen20.back_conv l0, he, Gen20.back_conv]
  exact hl0

/-- A candidate whose media type has the wanted supertype is never passed over for one without. -/
theorem selectBestLink_prefers_match (ls : List GenLink.Link) (sup : Str) (l l' : GenLink.Link)
    (h : GenLink.SelectBestLink ls sup = .ok (.ok l)) (hl' : l' ∈ ls) (hm' : Matches l' sup) :
    Matches l sup := by
  rw [matches_iff] at hm' ⊢
  exact C20b.selectBest_prefers_match _ sup _ _ (selectBest_of_gen h) (List.mem_map_of_mem hl') hm'

/-- Among candidates of the same standing the chosen one has the largest `height * width`
    (in `uint64` arithmetic, as `rating` computes it). -/
theorem selectBestLink_rating_max (ls : List GenLink.Link) (sup : Str) (l l' : GenLink.Link) (r r' : Nat)
    (h : GenLink.SelectBestLink ls sup = .ok (.ok l)) (hl' : l' ∈ ls)
    (hs : Matches l' sup ↔ Matches l sup)
    (he : ∀ e, l'.mediaType = .error e → e = .absent) (he0 : ∀ e, l.mediaType = .error e → e = .absent)
    (hr : GenLink.rating l = .ok r) (hr' : GenLink.rating l' = .ok r') : r' ≤ r := by
  rw [Gen20.rating_eq] at hr hr'
  refine C20b.selectBest_rating_max _ sup _ _ r r' (selectBest_of_gen h) (List.mem_map_of_mem hl') ?_ hr hr'
  -- without an error other than "absent" both have a standing, and `matches_iff` says which
  have key : ∀ x : GenLink.Link, (∀ e, x.mediaType = .error e → e = .absent) →
      ∃ b, Link.supertypeMatches (Gen20.conv x) sup = .ok b := by
    intro x hx
    obtain ⟨k, m, u, a, hh, w⟩ := x
    rcases m with (_ | _) | m
    · exact ⟨_, rfl⟩
    · cases hx _ rfl
    · exact ⟨_, rfl⟩
  obtain ⟨b1, e1⟩ := key l' he
  obtain ⟨b2, e2⟩ := key l he0
  rw [matches_iff, matches_iff, e1, e2] at hs
  rw [e1, e2, show b1 = b2 from Bool.eq_iff_iff.mpr (by simpa using hs)]

theorem of_map_sel {x : Option (Str × Mime.MediaType)} {u : Str} {m : Mime.MediaType}
    (h : x.map Gen20.sel = some ⟨u, m⟩) : x = some (u, m) := by
  obtain _ | ⟨a, b⟩ := x
  · cases h
  · cases h; rfl

/-- A link with a media type of its own is opened with exactly that type and its own URL. -/
theorem select_own_type (l : GenLink.Link) (d m : Mime.MediaType) (u : Str)
    (hu : l.uri = .ok u) (hm : l.mediaType = .ok m) :
    GenLink.SelectWithDefaultMediaType l d = some (u, m) :=
  of_map_sel ((Gen20.selectWithDefault_eq l d).trans (C20b.select_own_type (Gen20.conv l) d m u hu hm))

/-- A link without a usable media type is opened with the default of its own kind (`audio/*`,
    `video/*`, `image/*`), else with the caller's default; nothing else can be handed on. -/
theorem select_default_type (l : GenLink.Link) (d : Mime.MediaType) (u : Str) (e : Err)
    (hu : l.uri = .ok u) (hm : l.mediaType = .error e) :
    GenLink.SelectWithDefaultMediaType l d =
      some (u, if l.kind = "Audio".toList ∨ l.kind = "Video".toList ∨ l.kind = "Image".toList
               then Mime.unknownSubtype (l.kind.map Char.toLower) else d) := by
  have hk : Link.isMediaKind l.kind = true ↔
      (l.kind = "Audio".toList ∨ l.kind = "Video".toList ∨ l.kind = "Image".toList) := by
    simp only [Link.isMediaKind, Bool.or_eq_true, decide_eq_true_eq, or_assoc]
  simp only [← hk]
  exact of_map_sel ((Gen20.selectWithDefault_eq l d).trans (C20b.select_default_type (Gen20.conv l) d u e hu hm))

/-- Only a link without a usable URL cannot be opened. -/
theorem select_none_iff (l : GenLink.Link) (d : Mime.MediaType) :
    GenLink.SelectWithDefaultMediaType l d = none ↔ ∃ e, l.uri = .error e := by
  show _ ↔ ∃ e, (Gen20.conv l).uri = .error e
  rw [← C20b.select_none_iff (Gen20.conv l) d, ← Gen20.selectWithDefault_eq]
  cases GenLink.SelectWithDefaultMediaType l d <;> simp

/-- What `NewLink` puts into a link it accepts: the kind is one of the five link kinds; a `Link`
    takes its URL from `href` and may carry dimensions, every other kind takes it from `url` and
    has none (its rating is 1); media type and name are read the same way for all. -/
theorem newLink_fields {Time : Type} (L : Libs Time Link.Url) (o : List (Str × JVal)) (l : GenLink.Link)
    (h : GenLink.NewLink L (.obj o) = .ok l) :
    getString o "type".toList = .ok l.kind ∧
    l.kind ∈ ["Link", "Audio", "Document", "Image", "Video"].map String.toList ∧
    l.mediaType = getMediaType o "mediaType".toList ∧ l.alt = getString o "name".toList ∧
    (l.kind = "Link".toList →
      l.uri = getURL L o "href".toList ∧ l.height = getNumber o "height".toList ∧
        l.width = getNumber o "width".toList) ∧
    (l.kind ≠ "Link".toList →
      l.uri = getURL L o "url".toList ∧ l.height = .error .absent ∧ l.width = .error .absent) := by
  have e := Gen20.newLink_eq L (.obj o)
  rw [h] at e
  have e' : Link.ofObject L o = some (Gen20.conv l) := e.symm
  unfold Link.ofObject at e'
  cases hs : getString o "type".toList with
  | error err => rw [hs] at e'; cases e'
  | ok kind =>
    rw [hs] at e'
    simp only at e'
    by_cases hc : (!Link.kinds.contains kind) = true
    · rw [if_pos hc] at e'; cases e'
    · rw [if_neg hc] at e'
      have hmem : kind ∈ Link.kinds := by
        simpa using hc
      by_cases hk : kind = "Link".toList
      · rw [if_pos hk] at e'
        obtain rfl := (congrArg Gen20.back (Option.some.inj e')).trans (Gen20.back_conv l)
        exact ⟨rfl, hmem, rfl, rfl, fun _ => ⟨rfl, rfl, rfl⟩, fun hne => absurd hk hne⟩
      · rw [if_neg hk] at e'
        obtain rfl := (congrArg Gen20.back (Option.some.inj e')).trans (Gen20.back_conv l)
        exact ⟨rfl, hmem, rfl, rfl, fun he => absurd he hk, fun _ => ⟨rfl, rfl, rfl⟩⟩

end GenT20
