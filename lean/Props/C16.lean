import Model
import Proofs.C16

/-
  C16 — every frame is exactly as tall as the terminal (ansi part).
-/

namespace C16
open Str Ansi

/-- For every prefix, centred text, suffix and every height ≥ 1 the result has exactly
    `h` lines. -/
theorem center_height (p c s : Str) (h : Nat) (hh : 1 ≤ h) :
    height (centerVertically p c s h) = h := by
  have hno : ∀ l ∈ centerLines (splitNL p) (splitNL c) (splitNL s) h, '\n' ∉ l := by
    intro l hl
    rcases mem_centerLines _ _ _ _ l hl with h1 | h1 | h1 | h1
    · simp [h1]
    · exact splitNL_noNL p l h1
    · exact splitNL_noNL c l h1
    · exact splitNL_noNL s l h1
  rw [centerVertically_eq, height, countNL_joinNL _ hno, length_centerLines]
  omega

/-- The string-level function is the line-level one between `strings.Split` and `strings.Join`. -/
theorem center_refines (p c s : Str) (h : Nat) (hh : 1 ≤ h) :
    centerVertically p c s h = joinNL (centerLines (splitNL p) (splitNL c) (splitNL s) h) := by
  -- the refinement holds for every `h`; `hh` is not needed
  have _ := hh
  exact centerVertically_eq p c s h

/-- When the centred text does not fit, the frame is its first `h` lines. -/
theorem center_clip (p c s : Str) (h : Nat) (hle : h ≤ height c) :
    centerVertically p c s h = joinNL ((splitNL c).take h) := by
  unfold centerVertically
  simp only [hle, if_true]

/-- When the centred text fits, the frame is `top ++ centred ++ bottom` with `top` of `(h - |c|)/2`
    lines taken from the end of the (blank-padded) prefix and `bottom` from the start of the
    (blank-padded) suffix: the highlighted item is vertically centred. -/
theorem center_position (p c s : List Str) (h : Nat) (hgt : h > c.length) :
    ∃ top bottom : List Str,
      centerLines p c s h = top ++ c ++ bottom ∧
      top.length = (h - c.length) / 2 ∧
      bottom.length = (h - c.length) / 2 + (h - c.length) % 2 ∧
      (∃ k, top <:+ (List.replicate k [] ++ p)) ∧
      (∃ k, bottom <+: (s ++ List.replicate k [])) := by
  have hn : ¬ h ≤ c.length := by omega
  rw [centerLines_eq, if_neg hn]
  split
  · next ht =>
    exact ⟨[], botLines s _, rfl, by simp [ht], length_botLines _ _, ⟨0, by simp⟩,
      botLines_prefix _ _⟩
  · exact ⟨topLines p _, botLines s _, rfl, length_topLines _ _, length_botLines _ _,
      topLines_suffix _ _, botLines_prefix _ _⟩

/-- Replacing the last line of a text of at least two lines by a newline-free string keeps
    the height (and does not panic). -/
theorem replace_keeps_height (s r : Str) (h2 : 2 ≤ height s) (hr : '\n' ∉ r) :
    ∃ out, replaceLastLine s r = .ok out ∧ height out = height s := by
  have hc : r.contains '\n' = false := by simpa using hr
  have hr0 : List.count '\n' r = 0 := List.count_eq_zero.mpr hr
  unfold replaceLastLine
  simp only [hc, Bool.false_eq_true, if_false]
  refine ⟨_, rfl, ?_⟩
  cases hidx : s.reverse.idxOf? '\n' with
  | none =>
    -- no newline at all contradicts `2 ≤ height s`
    have hnm : '\n' ∉ s.reverse := List.idxOf?_eq_none_iff.mp hidx
    have h0 : List.count '\n' s = 0 := List.count_eq_zero.mpr (by simpa using hnm)
    simp only [height, countNL, h0] at h2
    omega
  | some j =>
    -- the last line holds no newline, so dropping it loses exactly one
    have hcount := idxOf?_count '\n' s.reverse j hidx
    rw [List.drop_reverse, List.count_reverse, List.count_reverse] at hcount
    simp only [lastIndexNL, hidx, height, countNL, List.count_append, List.count_cons_self, hr0]
    have he : s.length - 1 - j = s.length - (j + 1) := by omega
    rw [he]
    omega

/-- The status line is newline-free and exactly `w` characters long: `SetLength` squashes
    newlines, for every footer text and width ≥ 0 (a one-character ellipsis). -/
theorem setLength_no_newline (f : Str) (w : Int) (e : Char) (hw : 0 ≤ w) (he : e ≠ '\n') :
    ∃ out, setLength f w [e] = .ok out ∧ '\n' ∉ out ∧ (out.length : Int) = w := by
  have hno := squash_noNL (scrub f)
  unfold setLength
  generalize squash (scrub f) = t at hno
  by_cases h0 : w = 0
  · exact ⟨[], by simp [h0], by simp, by simp [h0]⟩
  by_cases h1 : (t.length : Int) > w
  · have h1' : ¬ w - 1 < 0 := by omega
    simp only [h0, h1, h1', if_true, if_false]
    refine ⟨_, rfl, ?_, by simp; omega⟩
    simpa [he.symm] using fun h => hno (List.mem_of_mem_take h)
  by_cases h2 : (t.length : Int) < w
  · simp only [h0, h1, h2, if_true, if_false]
    refine ⟨_, rfl, ?_, by simp [rep]; omega⟩
    simp [rep, hno]
  · simp only [h0, h1, h2, if_false]
    exact ⟨_, rfl, hno, by omega⟩

/-- Exactly one spare row: the geometry in which miscounting the bottom block gives `h+1` lines. -/
example : height (centerVertically "a\nb".toList "x\ny\nz".toList "c".toList 4) = 4 := by decide

end C16
