import Model
import Generated.Facts

/-
  The decision skeleton of `config.postprocess`, read from the source on every run, is the one
  `Config.postprocess` models: four colour conversions, each followed by its rejection, then the
  five rejections for an empty hook, a negative preload amount, a preload amount above
  `math.MaxInt32`, a negative timeout and a cache size below one, then the rejection of a timeout
  that would not survive the time unit conversion, then that conversion, and only then
  acceptance.  In particular there is no way to be accepted before every check has run.
-/

namespace Facts19b

theorem skeleton_as_modelled :
    Generated.postprocessSkeleton =
      ["declare",
       "config.Style.Colors.Primary,err=hexToAnsi(config.Style.Colors.Primary)",
       "if err!=nil { reject style.colors.primary }",
       "config.Style.Colors.Error,err=hexToAnsi(config.Style.Colors.Error)",
       "if err!=nil { reject style.colors.error }",
       "config.Style.Colors.Highlight,err=hexToAnsi(config.Style.Colors.Highlight)",
       "if err!=nil { reject style.colors.highlight }",
       "config.Style.Colors.Code,err=hexToAnsi(config.Style.Colors.Code)",
       "if err!=nil { reject style.colors.code }",
       "if len(config.Media.Hook)==0 { reject media.hook }",
       "if config.Network.Context<0 { reject network.preload_amount }",
       "if config.Network.Context>math.MaxInt32 { reject network.preload_amount }",
       "if config.Network.Timeout<0 { reject network.timeout_seconds }",
       "if config.Network.CacheSize<1 { reject network.cache_size }",
       "if config.Network.Timeout>math.MaxInt64/time.Second { reject network.timeout_seconds }",
       "config.Network.Timeout*=time.Second",
       "accept"] := rfl

theorem accept_only_at_the_end :
    (Generated.postprocessSkeleton.filter (· == "accept")) = ["accept"] ∧
    Generated.postprocessSkeleton.getLast? = some "accept" :=
  ⟨by decide +kernel, rfl⟩

end Facts19b
