import Model
import Generated.GoGemtext
import Props.Gen13
import Props.Gen14
import Proofs.Gen15

/-
  The tie by translation for C15 (and C12 through the link lists): gemtext/gemtext.go and
  plaintext/plaintext.go — the `Markup` struct with its cache fields, `NewMarkup`, `Render`,
  `renderWithLinks` — are translated from the source on every run (`extract/go2lean15.go` →
  `Generated/GoGemtext.lean`, namespaces `GenGemtext` and `GenPlaintext`); the theorems below say
  the generated code computes what the hand-written model (`Model/Gemtext.lean`,
  `Model/Markup.lean`) computes, on every source text and every width, the link lists included,
  and that the cache behaves as the model's over any sequence of widths.  Every right-hand side
  is `.ok …`: the translated functions do not panic (`match[1]`, `match[2]` are read only after
  `len(match)` was compared with the number of groups plus one).

  The parameters of the translated code are instantiated as follows.
  * `c`: the processed colours, as in Gen14.  `expand` (ansi.go's regular expression): the
    model's scanner, `Gen13.goExpand`; the calls of `ansi.Wrap` / `ansi.DumbWrap` and of
    `style.*` go to the translated `GenAnsiH.*` / `GenStyle.*`, which Gen13 / Gen14 equate with
    the model's.
  * `W`, the regular expressions of the two files.  gemtext.go asks six patterns
    `FindStringSubmatch` on a line; `gemExt` answers with what `Gemtext.classify` uses to
    recognise such a line (`linkMatch`, `headerMatch k`, `bulletMatch`, `quoteMatch`: the whole
    line and the groups, or nil); `recognisers_classify` says these six answers, asked in the
    order of the source, are `classify`.  plaintext.go asks one pattern `ReplaceAllStringFunc`;
    `plainExt` cuts the text where `Plaintext.matchUrl` finds a URL, scanning from the left as
    `Plaintext.replaceUrls` does.  The pattern literals themselves are compared with the ones
    the model's comments transcribe (`gemtext_patterns_eq`, `plaintext_patterns_eq`); that the
    recognisers do what Go's regexp does with these patterns is the differential side of C15
    and C12 (lines never contain '\n' there: they come out of `strings.Split(text, "\n")`, and
    `.` and `$` of the patterns would treat a '\n' differently from the model's recognisers).
  * `int` is the unbounded `Int`, as in the model: `width-2` … do not wrap for any width a
    terminal reports.
-/

namespace Gen15
open Str Ansi Gen15P

/-- The regular expressions of gemtext.go as the model recognises the lines. -/
def gemExt : GenGemtext.Ext := Gen15P.gemExt

/-- The regular expression of plaintext.go as the model recognises URLs. -/
def plainExt : GenPlaintext.Ext := Gen15P.plainExt

def toGenG (m : Markup.M (List Str)) : GenGemtext.Markup := ⟨m.tree, m.cached, m.cachedWidth⟩

def toGenP (m : Markup.M Str) : GenPlaintext.Markup := ⟨m.tree, m.cached, m.cachedWidth⟩

/-- The six patterns of gemtext.go, in the order the code tries them, are the ones
    `Model/Gemtext.lean` transcribes. -/
theorem gemtext_patterns_eq : GenGemtext.patterns =
    ["^=>[ \\t]*(.*?)(?:[ \\t]+(.*))?$", "^#[ \\t]+(.*)$", "^##[ \\t]+(.*)$", "^###[ \\t]+(.*)$",
     "^\\* (.*)$", "^> ?(.*)$"] := rfl

/-- The URL pattern of plaintext.go is the one `Plaintext.matchUrl` transcribes
    (`isSchemeChar`, `isHierChar`). -/
theorem plaintext_patterns_eq : GenPlaintext.patterns =
    ["[A-Za-z][A-Za-z0-9+\\-.]*://[A-Za-z0-9.?#/@:%_~!$&'()*+,;=\\[\\]\\-]+"] := rfl

/-- Asked in the order of the source, the six recognisers are `Gemtext.classify`: the first that
    answers decides, with the groups as the texts (and a link without a label shows its URI). -/
theorem recognisers_classify (line : Str) :
    Gemtext.classify line =
      match gemExt.re1 line with
      | [_, uri, alt] => .link uri (if alt.isEmpty then uri else alt)
      | _ =>
      match gemExt.re2 line with
      | [_, t] => .header 1 t
      | _ =>
      match gemExt.re3 line with
      | [_, t] => .header 2 t
      | _ =>
      match gemExt.re4 line with
      | [_, t] => .header 3 t
      | _ =>
      match gemExt.re5 line with
      | [_, t] => .bullet t
      | _ =>
      match gemExt.re6 line with
      | [_, t] => .quote t
      | _ => .plain line := by
  simp only [gemExt, Gen15P.gemExt]
  rcases shapes line with ⟨u, a, h1, hc⟩ | ⟨h1, t, h2, hc⟩ | ⟨h1, h2, t, h3, hc⟩ | ⟨h1, h2, h3, t, h4, hc⟩ |
    ⟨h1, h2, h3, h4, t, h5, hc⟩ | ⟨h1, h2, h3, h4, h5, t, h6, hc⟩ | ⟨h1, h2, h3, h4, h5, h6, hc⟩ <;>
  simp only [*]

theorem plainExt_covers (text : Str) : ((plainExt.re1 text).map (·.text)).flatten = text :=
  pieces_cover_fuel (text.length + 1) text (by omega)

/-- `renderWithLinks` of gemtext.go: the text and the link list, for all lines and every width
    (also zero and negative ones). -/
theorem gemtext_renderWithLinks_eq (c : Colors) (lines : List Str) (w : Int) :
    GenGemtext.renderWithLinks c Gen13.goExpand gemExt lines w = .ok (Gemtext.renderWithLinks c lines w) := by
  unfold GenGemtext.renderWithLinks
  simp only []
  -- the loop is the fold of `Gemtext.step`, the four variables being `loopVars` of the model's state
  rw [Gen13P.forIn_fold loopVars _ (Gemtext.step c w) lines ?h {} ([], Go.str "", false, Go.str "") rfl]
  case h =>
    intro line s
    -- the tests for a fence and for being inside a block are the model's, in the same order
    rw [Gemtext.step]
    refine switch_case next Iff.rfl (fun _ => ?_) fun _ => ?_
    · refine switch_case next Iff.rfl (fun _ => ?_) fun _ => rfl
      simp only [next, loopVars, Gen13.dumbWrap_eq, Gen14.codeBlock_eq, Gen14.bind_ok, Gemtext.codeBlockOf]
      rfl
    refine switch_case next Iff.rfl (fun _ => ?_) fun _ => ?_
    · simp only [next, loopVars, str_nl, List.append_assoc]
      rfl
    -- a line outside a block: in each case of `shapes` the tests on the lengths of the matches are decided
    simp only [gemExt, Gen15P.gemExt]
    rcases shapes line with ⟨u, a, h1, hc⟩ | h
    · -- a link line: the code replaces an empty label by the URI, as `classify` does
      by_cases ha : a = [] <;>
        simp [h1, hc, ha, next, loopVars, Go.len, Go.index, str_empty, str_nl, Gen13.wrap_eq, Gen14.bind_ok, linkBlock_succ,
          pure, Except.pure]
    rcases h with ⟨h1, t, h2, hc⟩ | ⟨h1, h2, t, h3, hc⟩ | ⟨h1, h2, h3, t, h4, hc⟩ |
        ⟨h1, h2, h3, h4, t, h5, hc⟩ | ⟨h1, h2, h3, h4, h5, t, h6, hc⟩ | ⟨h1, h2, h3, h4, h5, h6, hc⟩ <;>
      simp [*, next, loopVars, Go.len, Go.index, str_nl, Gen13.wrap_eq, Gen14.bind_ok,
        Gen14.header_eq, Gen14.bullet_eq, Gen14.quoteBlock_eq, pure, Except.pure]
  simp only [Gen14.bind_ok, Gemtext.renderWithLinks, Gemtext.renderFull, loopVars, Gen13.wrap_eq, Gen13.dumbWrap_eq,
    Gen14.codeBlock_eq, str_nl, trim_nl, pure, Except.pure]
  generalize List.foldl (Gemtext.step c w) {} lines = st
  cases st.pre <;> rfl

/-- `NewMarkup`: the lines of the text, rendered once at width 80 and remembered; the links. -/
theorem gemtext_newMarkup_eq (c : Colors) (text : Str) :
    GenGemtext.NewMarkup c Gen13.goExpand gemExt text =
      .ok (toGenG (Markup.new (Markup.gemR c) (splitNL text)), (Gemtext.renderWithLinks c (splitNL text) 80).2) := by
  -- `Markup.gemR` is unfolded before `rfl`, which would otherwise compare the renderers by unfolding them
  simp only [GenGemtext.NewMarkup, gemtext_renderWithLinks_eq, Gen14.bind_ok, Gen16.ofNat10, Gen16.splitChar_nl,
    toGenG, Markup.new, Markup.gemR]
  rfl

/-- `Render`: compare the width, else render and remember — the model's `Markup.render`, in the
    text returned and in the markup left behind. -/
theorem gemtext_render_eq (c : Colors) (m : Markup.M (List Str)) (w : Int) :
    GenGemtext.Render c Gen13.goExpand gemExt (toGenG m) w =
      .ok ((Markup.render (Markup.gemR c) m w).1, toGenG (Markup.render (Markup.gemR c) m w).2) := by
  simp only [GenGemtext.Render, gemtext_renderWithLinks_eq, Gen14.bind_ok, toGenG]
  rw [← Markup.gemR]
  exact render_of GenGemtext.Markup.mk (Markup.gemR c) m w

/-- The translated `Render` called at a sequence of widths, each call on the markup the previous
    one left: all the texts and the final markup. -/
def gemtextRenderSeq (c : Colors) (m : GenGemtext.Markup) : List Int → Except Panic (List Str × GenGemtext.Markup)
  | [] => .ok ([], m)
  | w :: ws => do
    let r ← GenGemtext.Render c Gen13.goExpand gemExt m w
    let rest ← gemtextRenderSeq c r.2 ws
    return (r.1 :: rest.1, rest.2)

/-- The cache over any sequence of widths is the model's. -/
theorem gemtext_renderSeq_eq (c : Colors) (m : Markup.M (List Str)) (ws : List Int) :
    gemtextRenderSeq c (toGenG m) ws =
      .ok ((Markup.renderSeq (Markup.gemR c) m ws).1, toGenG (Markup.renderSeq (Markup.gemR c) m ws).2) :=
  renderSeq_of toGenG _ _ (gemtextRenderSeq c) (fun _ => rfl) (fun _ _ _ => rfl) (gemtext_render_eq c) m ws

theorem plaintext_renderWithLinks_eq (c : Colors) (text : Str) (w : Int) :
    GenPlaintext.renderWithLinks c Gen13.goExpand plainExt text w = .ok (Plaintext.renderWithLinks c text w) := by
  unfold GenPlaintext.renderWithLinks
  simp only []
  have h := plain_pieces c (text.length + 1) text [] [] []
  unfold plainBody at h
  have e : plainExt.re1 text = urlPieces (text.length + 1) text := rfl
  rw [e, h]
  simp [Gen14.bind_ok, Gen13.wrap_eq, str_nl, trim_nl, Plaintext.renderWithLinks, Plaintext.renderFull, pure, Except.pure]

theorem plaintext_newMarkup_eq (c : Colors) (text : Str) :
    GenPlaintext.NewMarkup c Gen13.goExpand plainExt text =
      .ok (toGenP (Markup.new (Markup.plainR c) text), (Plaintext.renderWithLinks c text 80).2) := by
  simp only [GenPlaintext.NewMarkup, plaintext_renderWithLinks_eq, Gen14.bind_ok, toGenP, Markup.new, Markup.plainR]
  rfl

theorem plaintext_render_eq (c : Colors) (m : Markup.M Str) (w : Int) :
    GenPlaintext.Render c Gen13.goExpand plainExt (toGenP m) w =
      .ok ((Markup.render (Markup.plainR c) m w).1, toGenP (Markup.render (Markup.plainR c) m w).2) := by
  simp only [GenPlaintext.Render, plaintext_renderWithLinks_eq, Gen14.bind_ok, toGenP]
  rw [← Markup.plainR]
  exact render_of GenPlaintext.Markup.mk (Markup.plainR c) m w

def plaintextRenderSeq (c : Colors) (m : GenPlaintext.Markup) : List Int → Except Panic (List Str × GenPlaintext.Markup)
  | [] => .ok ([], m)
  | w :: ws => do
    let r ← GenPlaintext.Render c Gen13.goExpand plainExt m w
    let rest ← plaintextRenderSeq c r.2 ws
    return (r.1 :: rest.1, rest.2)

theorem plaintext_renderSeq_eq (c : Colors) (m : Markup.M Str) (ws : List Int) :
    plaintextRenderSeq c (toGenP m) ws =
      .ok ((Markup.renderSeq (Markup.plainR c) m ws).1, toGenP (Markup.renderSeq (Markup.plainR c) m ws).2) :=
  renderSeq_of toGenP _ _ (plaintextRenderSeq c) (fun _ => rfl) (fun _ _ _ => rfl) (plaintext_render_eq c) m ws

end Gen15
