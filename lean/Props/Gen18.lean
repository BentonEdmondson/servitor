import Model.History
import Model.Feed
import Generated.GoHistory
import Generated.GoFeed
import Proofs.Gen18

/-
  The tie by translation for C18: `Generated/GoHistory.lean` and `Generated/GoFeed.lean` are produced from history/history.go and
  feed/feed.go by `extract/go2lean.go` on every run; the theorems below say that every method of
  the generated code computes exactly what the hand-written model (`Model/History.lean`,
  `Model/Feed.lean`) computes.  The C18 theorems (`Props/C18.lean`) are stated over the hand-written
  model; through these equalities they hold of the code as translated.
-/

namespace Gen18

/-- A model history as a value of the generated structure (the index is a Go `int`). -/
def toGenH {α : Type} (h : History.H α) : GenHistory.History α := ⟨h.elements, h.index⟩

theorem current_eq {α : Type} (h : History.H α) :
    GenHistory.Current (toGenH h) = History.current h := by
  simp only [GenHistory.Current, toGenH, index_natCast, History.current]
  cases h.elements[h.index]? <;> rfl

theorem back_eq {α : Type} (h : History.H α) :
    GenHistory.Back (toGenH h) = .ok (toGenH (History.back h)) := by
  by_cases hc : 0 < h.index <;> simp [GenHistory.Back, toGenH, History.back, hc, pure, Except.pure]
  omega

theorem forward_eq {α : Type} (h : History.H α) :
    GenHistory.Forward (toGenH h) = .ok (toGenH (History.forward h)) := by
  by_cases hc : h.index + 1 < h.elements.length <;>
    simp [GenHistory.Forward, toGenH, History.forward, Go.len, hc, pure, Except.pure] <;> omega

theorem add_eq {α : Type} (h : History.H α) (x : α) :
    GenHistory.Add (toGenH h) x = (History.add h x).map toGenH := by
  simp only [GenHistory.Add, toGenH, History.add, Go.isNil, Go.sliceTo]
  by_cases he : h.elements.isEmpty = true
  · simp only [he, if_true]
    rfl
  · by_cases hc : h.index + 1 > h.elements.length
    · have hc' : (h.index : Int) + 1 < 0 ∨ (h.index : Int) + 1 > (h.elements.length : Int) := by omega
      simp only [he, hc, hc', if_true]
      rfl
    · have hc' : ¬ ((h.index : Int) + 1 < 0 ∨ (h.index : Int) + 1 > (h.elements.length : Int)) := by omega
      have e : ((h.index : Int) + 1).toNat = h.index + 1 := by omega
      simp only [he, hc, hc', e, if_false]
      rfl

theorem isEmpty_eq {α : Type} (h : History.H α) :
    GenHistory.IsEmpty (toGenH h) = .ok (History.isEmpty h) := by
  obtain ⟨els, idx⟩ := h
  simp only [GenHistory.IsEmpty, toGenH, History.isEmpty, Go.len, pure, Except.pure]
  cases els with
  | nil => rfl
  | cons a l =>
    have : ¬ (((a :: l).length : Int) = 0) := by simp only [List.length_cons]; omega
    simp only [this, decide_false]
    rfl

/-- Every generated history with a non-negative index is the image of a model history, so the
    equalities above cover every state the code can be in (the index starts at 0 and only
    `Back` decrements it, guarded by `index > 0`). -/
theorem toGenH_surjective {α : Type} (g : GenHistory.History α) (h0 : 0 ≤ g.index) :
    ∃ h : History.H α, toGenH h = g := by
  refine ⟨⟨g.elements, g.index.toNat⟩, ?_⟩
  cases g with
  | mk els idx =>
    simp only [toGenH] at h0 ⊢
    rw [Int.toNat_of_nonneg h0]

def toGenF {α : Type} (f : Feed.F α) : GenFeed.Feed α := ⟨f.feed, f.upper, f.lower, f.index⟩

theorem toGenF_surjective {α : Type} (g : GenFeed.Feed α) : ∃ f : Feed.F α, toGenF f = g := by
  exact ⟨⟨g.feed, g.upperBound, g.lowerBound, g.index⟩, rfl⟩

theorem createEmpty_eq {α : Type} : GenFeed.CreateEmpty = .ok (toGenF (Feed.createEmpty : Feed.F α)) := by
  rfl

theorem create_eq {α : Type} (x : α) : GenFeed.Create (some x) = .ok (toGenF (Feed.create x)) := by
  rfl

theorem append_eq {α : Type} (f : Feed.F α) (xs : List α) :
    GenFeed.Append (toGenF f) (xs.map some) = .ok (toGenF (Feed.append f xs)) := by
  simp only [GenFeed.Append, toGenF, Feed.append, bind_pure_comp, List.forIn_pure_yield_eq_foldl,
    enumerate_eq_enumFrom]
  rw [foldl_feed_only (fun s => s.upperBound) (fun _ _ => rfl) (fun a b => a + b)]
  simp only [map_pure, Go.len, List.length_map]
  show Except.ok _ = Except.ok _
  congr 2
  funext j
  rw [foldl_set _ (· - f.upper) (by intros; omega)]
  exact ite_congr (propext (by omega)) (fun _ => by simp) fun _ => rfl

theorem prepend_eq {α : Type} (f : Feed.F α) (xs : List α) :
    GenFeed.Prepend (toGenF f) (xs.map some) = .ok (toGenF (Feed.prepend f xs)) := by
  simp only [GenFeed.Prepend, toGenF, Feed.prepend, bind_pure_comp, List.forIn_pure_yield_eq_foldl,
    enumerate_eq_enumFrom]
  rw [foldl_feed_only (fun s => s.lowerBound) (fun _ _ => rfl) (fun a b => a - b)]
  simp only [map_pure, Go.len, List.length_map]
  show Except.ok _ = Except.ok _
  congr 2
  funext j
  rw [foldl_set _ (f.lower - ·) (by intros; omega)]
  exact ite_congr (propext (by omega)) (fun _ => by simp) fun _ => rfl

theorem createAndAppend_eq {α : Type} (xs : List α) :
    GenFeed.CreateAndAppend (xs.map some) = .ok (toGenF (Feed.createAndAppend xs)) := by
  have h := append_eq (⟨fun _ => none, 1, 0, 1⟩ : Feed.F α) xs
  simp only [GenFeed.CreateAndAppend, Feed.createAndAppend]
  exact h

theorem contains_eq {α : Type} (f : Feed.F α) (off : Int) :
    GenFeed.Contains (toGenF f) off = .ok (Feed.contains f off) := by
  rfl

theorem get_eq {α : Type} (f : Feed.F α) (off : Int) :
    GenFeed.Get (toGenF f) off = Feed.get f off := by
  simp only [GenFeed.Get, Feed.get, contains_eq]
  cases hc : Feed.contains f off <;> rfl

theorem current_feed_eq {α : Type} (f : Feed.F α) :
    GenFeed.Current (toGenF f) = .ok (Feed.current f) := by
  rfl

theorem moveUp_eq {α : Type} (f : Feed.F α) :
    GenFeed.MoveUp (toGenF f) = .ok (toGenF (Feed.moveUp f)) := by
  simp only [GenFeed.MoveUp, Feed.moveUp, contains_eq]
  cases hc : Feed.contains f (-1) <;> rfl

theorem moveDown_eq {α : Type} (f : Feed.F α) :
    GenFeed.MoveDown (toGenF f) = .ok (toGenF (Feed.moveDown f)) := by
  simp only [GenFeed.MoveDown, Feed.moveDown, contains_eq]
  cases hc : Feed.contains f 1 <;> rfl

theorem moveToCenter_eq {α : Type} (f : Feed.F α) :
    GenFeed.MoveToCenter (toGenF f) = .ok (toGenF (Feed.moveToCenter f)) := by
  simp only [GenFeed.MoveToCenter, Feed.moveToCenter]
  have e : (toGenF f).index = f.index := rfl
  rw [e, contains_eq]
  cases hc : Feed.contains f (-f.index) <;> rfl

theorem isParent_eq {α : Type} (f : Feed.F α) (off : Int) :
    GenFeed.IsParent (toGenF f) off = .ok (Feed.isParent f off) := by
  rfl

theorem isChild_eq {α : Type} (f : Feed.F α) (off : Int) :
    GenFeed.IsChild (toGenF f) off = .ok (Feed.isChild f off) := by
  rfl

end Gen18
