import Model
import Generated.GoGemtext
import Props.C15
import Props.C12
import Props.Gen15
import Proofs.GenT15

/-
  C15 and C12 stated directly about the code as translated from gemtext/gemtext.go and
  plaintext/plaintext.go (`Generated/GoGemtext.lean`), carried across the equalities of
  `Props/Gen15.lean`: the translated functions return (no panic), every line of what they return
  is within the width (under the hypothesis `C15.gemtext_fits` has: `1 ≤ w`), `Render` at a
  width gives the text of `renderWithLinks` at that width whatever was rendered before, and the
  k-th link line carries the number k and is entry k of the link list.
  The model appears as the specification only (`C15.FitsShape`, `C12.ideal`, `GenT15P.numbered`).
-/

namespace GenT15
open Str Ansi Gen15

/-- What the translated gemtext renderer returns, in the terms C15 (`Markup.gemR`) and C12
    (`Gemtext.renderFull`) speak of.  `rw` by the definitions only: an `exact` across the two
    forms makes Lean compare the renderers by unfolding them. -/
theorem gemtext_renderWithLinks_parts (c : Colors) (lines : List Str) (w : Int) :
    GenGemtext.renderWithLinks c Gen13.goExpand gemExt lines w =
      .ok (Markup.gemR c lines w, (Gemtext.renderFull c lines w).2.links) := by
  rw [gemtext_renderWithLinks_eq, Markup.gemR, Gemtext.renderWithLinks]

theorem plaintext_renderWithLinks_parts (c : Colors) (text : Str) (w : Int) :
    GenPlaintext.renderWithLinks c Gen13.goExpand plainExt text w =
      .ok (Markup.plainR c text w, (Plaintext.renderFull c text w).2.1) := by
  rw [plaintext_renderWithLinks_eq, Markup.plainR, Plaintext.renderWithLinks]

/-! ### C15: within the width -/

theorem gemtext_fits (c : Colors) (lines : List Str) (w : Int) (hw : 1 ≤ w) :
    ∃ out links, GenGemtext.renderWithLinks c Gen13.goExpand gemExt lines w = .ok (out, links) ∧
      C15.FitsShape isNl w out :=
  ⟨_, _, gemtext_renderWithLinks_parts c lines w, C15.gemtext_fits c lines w hw⟩

theorem plaintext_fits (c : Colors) (text : Str) (w : Int) (hw : 1 ≤ w) :
    ∃ out links, GenPlaintext.renderWithLinks c Gen13.goExpand plainExt text w = .ok (out, links) ∧
      C15.FitsShape isNl w out :=
  ⟨_, _, plaintext_renderWithLinks_parts c text w, C15.plaintext_fits c text w hw⟩

/-! ### C15: only content and width -/

/-- Gemtext: make the markup from a text, render it at any sequence of widths, then at `w`: none
    of the calls panics, and the last one returns exactly what the translated `renderWithLinks`
    returns for the lines of the text at `w` (so, for `1 ≤ w`, a text within the width). -/
theorem gemtext_render_history_free (c : Colors) (text : Str) (ws : List Int) (w : Int) :
    ∃ m0 links0 outs m out m' links,
      GenGemtext.NewMarkup c Gen13.goExpand gemExt text = .ok (m0, links0) ∧
      gemtextRenderSeq c m0 ws = .ok (outs, m) ∧
      GenGemtext.Render c Gen13.goExpand gemExt m w = .ok (out, m') ∧
      GenGemtext.renderWithLinks c Gen13.goExpand gemExt (splitNL text) w = .ok (out, links) := by
  refine ⟨_, _, _, _, _, _, (Gemtext.renderFull c (splitNL text) w).2.links, gemtext_newMarkup_eq c text,
    gemtext_renderSeq_eq c _ ws, gemtext_render_eq c _ w, ?_⟩
  rw [C15.render_history_free, gemtext_renderWithLinks_parts]

/-- Every text the sequence of `Render`s returns on the way is the one `renderWithLinks` returns at
    its width. -/
theorem gemtext_renderSeq_pure (c : Colors) (text : Str) (ws : List Int) :
    ∃ m0 links0 outs m,
      GenGemtext.NewMarkup c Gen13.goExpand gemExt text = .ok (m0, links0) ∧
      gemtextRenderSeq c m0 ws = .ok (outs, m) ∧
      ∀ i (h : i < ws.length), ∃ links,
        GenGemtext.renderWithLinks c Gen13.goExpand gemExt (splitNL text) ws[i] = .ok (outs[i]?.getD [], links) := by
  refine ⟨_, _, _, _, gemtext_newMarkup_eq c text, gemtext_renderSeq_eq c _ ws, ?_⟩
  intro i h
  rw [C15.renderSeq_pure, List.getElem?_map, List.getElem?_eq_getElem h]
  exact ⟨_, gemtext_renderWithLinks_parts c _ _⟩

theorem plaintext_render_history_free (c : Colors) (text : Str) (ws : List Int) (w : Int) :
    ∃ m0 links0 outs m out m' links,
      GenPlaintext.NewMarkup c Gen13.goExpand plainExt text = .ok (m0, links0) ∧
      plaintextRenderSeq c m0 ws = .ok (outs, m) ∧
      GenPlaintext.Render c Gen13.goExpand plainExt m w = .ok (out, m') ∧
      GenPlaintext.renderWithLinks c Gen13.goExpand plainExt text w = .ok (out, links) := by
  refine ⟨_, _, _, _, _, _, (Plaintext.renderFull c text w).2.1, plaintext_newMarkup_eq c text,
    plaintext_renderSeq_eq c _ ws, plaintext_render_eq c _ w, ?_⟩
  rw [C15.render_history_free, plaintext_renderWithLinks_parts]

/-- The link list `NewMarkup` returns (at width 80) is the one `renderWithLinks` returns at any
    width: the numbers stay valid across resizes. -/
theorem gemtext_links_width_independent (c : Colors) (text : Str) (w : Int) :
    ∃ m0 links out,
      GenGemtext.NewMarkup c Gen13.goExpand gemExt text = .ok (m0, links) ∧
      GenGemtext.renderWithLinks c Gen13.goExpand gemExt (splitNL text) w = .ok (out, links) := by
  refine ⟨_, _, Markup.gemR c (splitNL text) w, gemtext_newMarkup_eq c text, ?_⟩
  rw [gemtext_renderWithLinks_parts, C12.gemtext_links_width_independent c _ w 80]
  rfl

/-! ### C12: the number after a link is its position in the link list -/

/-- Gemtext: the translated code returns the model's text and link list, and the record of
    (number handed to `style.LinkBlock`, the line's own URI) is the ideal labelling of that list:
    the k-th link line carries the number k. -/
theorem gemtext_labels (c : Colors) (lines : List Str) (w : Int) :
    ∃ out links, GenGemtext.renderWithLinks c Gen13.goExpand gemExt lines w = .ok (out, links) ∧
      links = (Gemtext.renderFull c lines w).2.links ∧
      (Gemtext.renderFull c lines w).2.ghost = C12.ideal links :=
  ⟨_, _, gemtext_renderWithLinks_parts c lines w, rfl, C12.gemtext_labels c lines w⟩

theorem plaintext_labels (c : Colors) (text : Str) (w : Int) :
    ∃ out links, GenPlaintext.renderWithLinks c Gen13.goExpand plainExt text w = .ok (out, links) ∧
      links = (Plaintext.renderFull c text w).2.1 ∧
      (Plaintext.renderFull c text w).2.2 = C12.ideal links :=
  ⟨_, _, plaintext_renderWithLinks_parts c text w, rfl, C12.plaintext_labels c text w⟩

/-- The same without the ghost record: what the translated gemtext renderer returns is the final
    wrap and trim of `numbered … 0 …`, the document in which the link lines are numbered by an
    explicit count of the link lines before them, and its link list is `linkLines`, the URIs of
    those same lines in order. -/
theorem gemtext_numbered (c : Colors) (lines : List Str) (w : Int) :
    GenGemtext.renderWithLinks c Gen13.goExpand gemExt lines w =
      .ok (trim isNl (Ansi.wrap (GenT15P.numbered c w 0 false [] lines) w), GenT15P.linkLines false lines) := by
  rw [gemtext_renderWithLinks_eq, GenT15P.renderWithLinks_numbered]

/-- A link line outside a preformatted block that has `n` link lines before it is shown with the
    number `n + 1` — whatever comes before (that leaves no block open) and after — and is entry
    `n` of the link list. -/
theorem gemtext_kth_link_line (c : Colors) (w : Int) (before after : List Str) (line uri alt : Str)
    (hopen : GenT15P.openAfter false before = false) (hf : hasPrefix "```".toList line = false)
    (hl : Gemtext.classify line = .link uri alt) :
    let n := (GenT15P.linkLines false before).length
    GenT15P.numbered c w 0 false [] (before ++ line :: after) =
      GenT15P.body c w 0 false [] before ++
        (Style.linkBlock c (Ansi.wrap alt (w - 2)) (n + 1) ++ ['\n'] ++ GenT15P.numbered c w (n + 1) false [] after) ∧
    (GenT15P.linkLines false (before ++ line :: after))[n]? = some uri := by
  have h := GenT15P.numbered_append c w before (line :: after) 0 false [] hopen (fun _ => rfl)
  intro n
  rw [h.1, h.2, GenT15P.numbered, GenT15P.linkLines]
  simp only [hf, hl, Bool.false_eq_true, if_false, GenT15P.block, GenT15P.isLink, if_true, Nat.zero_add, n,
    List.getElem?_append_right (Nat.le_refl _), Nat.sub_self, List.getElem?_cons_zero, and_self]

/-- The translated code, run (`toOption`: `some` of the result when there is no panic): two link
    lines around a preformatted block that contains something looking like a link — the links
    are `a` and `b`, shown as ¹ and ², the block is kept as it is; rendered at 20, then at 80
    again (from nothing: the cache holds width 20 by then), the markup ends with width 80. -/
example :
    ((do let r ← GenGemtext.NewMarkup ⟨[], [], [], []⟩ Gen13.goExpand gemExt
                   "=> a A\n```\n=> x\n```\n=>b".toList
         let o ← gemtextRenderSeq ⟨[], [], [], []⟩ r.1 [20, 80]
         pure (r.2, o.1, o.2.cachedWidth)) : Except Panic _).toOption =
    some (["a".toList, "b".toList],
      ["‣ \x1b[38;2;m\x1b[4mA\x1b[0m\x1b[38;2;m¹\x1b[0m\n\x1b[48;2;m=\x1b[0m\x1b[48;2;m>\x1b[0m\x1b[48;2;m \x1b[0m\x1b[48;2;mx\x1b[0m\n‣ \x1b[38;2;m\x1b[4mb\x1b[0m\x1b[38;2;m²\x1b[0m".toList,
       "‣ \x1b[38;2;m\x1b[4mA\x1b[0m\x1b[38;2;m¹\x1b[0m\n\x1b[48;2;m=\x1b[0m\x1b[48;2;m>\x1b[0m\x1b[48;2;m \x1b[0m\x1b[48;2;mx\x1b[0m\n‣ \x1b[38;2;m\x1b[4mb\x1b[0m\x1b[38;2;m²\x1b[0m".toList],
      80) := by
  -- a string literal is cheap to turn into its characters by `rw`, dear to evaluate
  rw [String.toList_ofList, String.toList_ofList, String.toList_ofList, String.toList_ofList]
  decide +kernel

/-- Plain text wrapped at 10: the link list is the two URLs, in order. -/
example :
    ((GenPlaintext.renderWithLinks ⟨[], [], [], []⟩ Gen13.goExpand plainExt
        "see http://a.b/c and x://y".toList 10).toOption.map (·.2)) =
      some ["http://a.b/c".toList, "x://y".toList] := by
  rw [String.toList_ofList, String.toList_ofList, String.toList_ofList]
  decide +kernel

end GenT15
