import Props.Gen16m
import Props.Clean

/-
  C01 at the last step before the terminal, on translated code: `printRaw` of main.go
  (`GenMain.printRaw`, regenerated from the source on every run, `Props/Gen16m.lean`) is the
  function every frame passes through.  What reaches the terminal for a clean frame is two fixed
  sequences (cursor home, clear screen) and the frame with a carriage return before every line feed.
-/

namespace GenT01m
open Go.Term Gen16m

/-- **C01 at the terminal.**  What `printRaw` writes for a clean frame is the two fixed sequences
    and a text `t` that is the frame with carriage returns added: removing them gives the frame
    back (so what is left is clean, hence safe, text), and each of them stands directly before a
    line feed. -/
theorem terminal_gets_frame_and_cr (frame : Str) (h : Cells.Clean frame) :
    ∃ t, GenMain.printRaw none frame = .ok [Act.write (Main.home ++ Main.clear ++ t)] ∧
      t.filter (· ≠ '\r') = frame ∧
      Safe.safe (t.filter (· ≠ '\r')) = true ∧
      ∀ a b, t = a ++ '\r' :: b → b.head? = some '\n' := by
  have hcr := Gen16mP.clean_no_cr frame h
  exact ⟨Main.crlf frame, printRaw_eq frame, crlf_strip frame hcr,
    by rw [crlf_strip frame hcr]; exact CleanProps.clean_safe frame h, crlf_cr_before_lf frame hcr⟩

/-- What is written after the two fixed sequences holds no character other than carriage returns
    and characters of the frame.  (This is `Gen16m.printRaw_adds_cr_only` and holds of every frame:
    that the frame is clean is not used.) -/
theorem terminal_controls (frame : Str) (h : Cells.Clean frame) :
    ∃ t, GenMain.printRaw none frame = .ok [Act.write (Main.home ++ Main.clear ++ t)] ∧
      ∀ ch ∈ t, ch = '\r' ∨ ch ∈ frame := by
  have _ := h
  exact printRaw_adds_cr_only frame

end GenT01m
