import Model
import Proofs.C04
import Props.C03

/-
  C04 — requests are anonymous, well-formed https GETs that content cannot tamper with
  (byte contract of the single `connection.Write`).
-/

namespace C04
open Jtp

def noCRLF (s : Str) : Prop := '\r' ∉ s ∧ '\n' ∉ s

/-- (1) If request-URI, host and accept contain no CR/LF, the bytes written are exactly one
    request: a request line, a Host header, an Accept header, the empty line, and nothing after
    it — no extra header line, no body, no second request. -/
theorem request_exact (uri host accept : Str) (hu : noCRLF uri) (hh : noCRLF host) (ha : noCRLF accept) :
    parseReq (request uri host accept) =
      some ⟨"GET ".toList ++ uri ++ " HTTP/1.0".toList,
            ["Host: ".toList ++ host, "Accept: ".toList ++ accept], []⟩ := by
  unfold request
  -- literals as character lists: `String.toList` on a literal is slow to evaluate
  repeat rewrite [String.toList_ofList]
  refine (congrArg parseReq ?_).trans (parseReq_two_headers _ _ _ ?_ ?_ ?_ ?_ ?_)
  · simp only [List.append_assoc, List.cons_append, List.nil_append]
  · simp [hu.1]
  · simp [hh.1]
  · simp [ha.1]
  · exact List.cons_ne_nil _ _
  · exact List.cons_ne_nil _ _

/-- The request is as long as its three pieces and the fixed text between them: `GET `,
    ` HTTP/1.0`, `Host: `, `Accept: ` and four CR LF, 4 + 9 + 6 + 8 + 8 = 35 bytes.  (That it holds
    nothing else at all is `request_exact`.) -/
theorem request_length (uri host accept : Str) :
    (request uri host accept).length = uri.length + host.length + accept.length + 35 := by
  unfold request
  repeat rewrite [String.toList_ofList]  -- as in `request_exact`
  simp only [List.length_append, List.length_cons, List.length_nil]
  omega

/-- What the hypothesis `noCRLF uri` of `request_exact` excludes, on one input: with
    `\r\nX-Evil: 1` inside the request-URI the request is read back with three header lines.  For
    real URLs the hypothesis is discharged by `url.Parse` rejecting control bytes (a trusted
    library fact evaluated by the check on every generated URL). -/
theorem request_injection_needs_crlf :
    (parseReq (request "/x\r\nX-Evil: 1".toList "h".toList "a".toList)).map (·.headers.length) = some 3 := by
  unfold request
  repeat rewrite [String.toList_ofList]  -- as in `request_exact`
  decide

/-- (2) A connection is only ever opened for an https URL, on every hop, whatever the cache. -/
theorem no_plaintext {Doc : Type} (env : Env Doc) (tol : List Str) (b : Nat) (c : Cache Doc) (u : Url) :
    ∀ r ∈ (get env tol b c u).requests, env.https r = true := by
  exact (C03.get_requests_bounded env tol b c u).2

end C04
