import Model.Json
import Generated.GoObject
import Proofs.Gen17

/-
  The tie by translation for C17: the typed accessors of object/object.go (GetAny, GetString,
  GetNumber, GetObject, GetList, GetTime, GetURL, GetMediaType and the instantiations of getPrimitive they
  use) are translated from the source on every run (`Generated/GoObject.lean`, namespace
  `GenObject`); the theorems below say the generated code computes what the hand-written model
  (`Model/Json.lean`, namespace `Obj`) computes, so the C17 classification theorems hold of the
  code as translated.
-/

namespace Gen17

variable {Time Url : Type}

theorem getAny_eq (L : Obj.Libs Time Url) (o : List (Str × JVal)) (k : Str) :
    GenObject.GetAny L o k = Obj.getAny o k := by
  unfold GenObject.GetAny GenObject.getPrimitive_any Obj.getAny Go.mapLookup
  cases Obj.lookup o k with
  | none => rfl
  | some v => cases v <;> rfl

theorem getString_eq (L : Obj.Libs Time Url) (o : List (Str × JVal)) (k : Str) :
    GenObject.GetString L o k = Obj.getString o k := by
  unfold GenObject.GetString Obj.getString
  rw [show GenObject.getPrimitive_string o k = _ from getPrimitive_eq Go.assert_string o k]
  cases Obj.getAny o k with
  | error e => rfl
  | ok v =>
    cases v with
    | str s => simp only [Go.assert_string, if_true, decide_eq_nil_eq_isEmpty]
    | _ => rfl

theorem getObject_eq (L : Obj.Libs Time Url) (o : List (Str × JVal)) (k : Str) :
    GenObject.GetObject L o k = Obj.getObject o k := by
  unfold GenObject.GetObject Obj.getObject
  rw [show GenObject.getPrimitive_map o k = _ from getPrimitive_eq Go.assert_map o k]
  cases Obj.getAny o k with
  | error e => rfl
  | ok v => cases v <;> rfl

theorem getList_eq (L : Obj.Libs Time Url) (o : List (Str × JVal)) (k : Str) :
    GenObject.GetList L o k = Obj.getList o k := by
  unfold GenObject.GetList Obj.getList
  rw [getAny_eq]
  cases Obj.getAny o k with
  | error e => rfl
  | ok v => cases v <;> rfl

theorem getTime_eq (L : Obj.Libs Time Url) (o : List (Str × JVal)) (k : Str) :
    GenObject.GetTime L o k = Obj.getTime L o k := by
  unfold GenObject.GetTime Obj.getTime
  rw [getString_eq]
  cases Obj.getString o k with
  | error e => rfl
  | ok s => dsimp only; cases L.parseTime s <;> rfl

theorem getURL_eq (L : Obj.Libs Time Url) (o : List (Str × JVal)) (k : Str) :
    GenObject.GetURL L o k = Obj.getURL L o k := by
  unfold GenObject.GetURL Obj.getURL
  rw [getString_eq]
  cases Obj.getString o k with
  | error e => rfl
  | ok s => dsimp only; cases L.parseUrl s <;> rfl

theorem getMediaType_eq (L : Obj.Libs Time Url) (o : List (Str × JVal)) (k : Str) :
    GenObject.GetMediaType L o k = Obj.getMediaType o k := by
  unfold GenObject.GetMediaType Obj.getMediaType
  rw [getString_eq]
  cases Obj.getString o k with
  | error e => rfl
  | ok s => dsimp only; cases Mime.parse s <;> rfl

/-- The translated `GetNumber` works on the bit pattern of the double with the Go operations as
    `Model/GoJson.lean` defines them (`math.Trunc`, `!=`, comparison with an exactly representable
    integer literal, conversion to `uint64`); the model (`Obj.getNumber`) works on the exact value
    (`F64.toNat?`).  They agree on every bit pattern — NaNs, infinities, signed zeros, subnormals,
    fractions and values of 2^64 and beyond included. -/
theorem getNumber_eq (L : Obj.Libs Time Url) (o : List (Str × JVal)) (k : Str)
    (hbits : ∀ bits, Obj.lookup o k = some (.num bits) → bits < 2 ^ 64) :
    GenObject.GetNumber L o k = Obj.getNumber o k := by
  unfold GenObject.GetNumber Obj.getNumber
  rw [show GenObject.getPrimitive_float64 o k = _ from getPrimitive_eq Go.assert_float64 o k]
  unfold Obj.getAny
  cases h : Obj.lookup o k with
  | none => rfl
  | some v =>
    cases v with
    | num bits => exact numCore bits (hbits bits h)
    | _ => rfl

end Gen17
