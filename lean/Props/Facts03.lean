import Model
import Generated.Facts

/-
  Facts regenerated from jtp/jtp.go and client/client.go on every run, tied to the constants the
  model was written with (C03).
-/
namespace Facts03

/-- The status whitelist in the source is the model's. -/
theorem okStatuses_match : Generated.okStatuses.map String.toList = Jtp.okStatuses := rfl

/-- The redirect budget `client.FetchURL` and `ResolveWebfinger` pass (the budget the
    correspondence check and the UI/pub world model run with). -/
theorem maxRedirects_is_20 : Generated.maxRedirects = 20 := by decide

/-- The recognisers of Model/Jtp.lean were transcribed from exactly these regular expressions. -/
theorem regexes_unchanged : Generated.jtpRegexes =
    ["(?s)^(([!#$%&'*+\\-.^_\\x60|~a-zA-Z0-9]+)/([!#$%&'*+\\-.^_\\x60|~a-zA-Z0-9]+)).*$",
     "^HTTP/1\\.[0-9] ([0-9]{3}).*\\n$",
     "^(?i:content-type):[ \\t\\r]*(.*?)[ \\t\\r]*\\n$",
     "^(?i:location):[ \\t\\r]*(.*?)[ \\t\\r]*\\n$"] := rfl

/-- The status line and every header line are read with `ReadString('\n')` on one buffered
    reader — whole lines of any length, as `Jtp.splitHeaders` models them — and the JSON decoder
    continues on the same reader. -/
theorem reads_whole_lines : Generated.jtpReads =
    ["bufio.NewReader(connection)", "buf.ReadString('\\n')", "json.NewDecoder(buf)",
     "buf.ReadString('\\n')", "buf.ReadString('\\n')"] := rfl

end Facts03
