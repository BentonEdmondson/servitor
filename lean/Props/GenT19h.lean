import Model
import Generated.GoHex
import Props.C19
import Props.Gen19h

/-
  C19 (1) on the code as it is written: the theorems of Props/C19.lean about `hexToAnsi`, restated
  on the translation of config/config.go (`Generated/GoHex.lean`, on bytes) and proved by
  transport along `Gen19h.hexToAnsi_eq`.
-/

namespace GenT19h
open Config GoB

/-- (1) The Go `hexToAnsi` accepts exactly `#` followed by six hexadecimal digits (ASCII: a
    string with any other character is refused, whatever its length in bytes). -/
theorem generated_hexToAnsi_accepts_iff (s : Str) :
    (∃ out, GenHex.hexToAnsi (utf8 s) = .ok out) ↔
      ∃ a b c d e f, s = ['#', a, b, c, d, e, f] ∧
        C19.isHex a ∧ C19.isHex b ∧ C19.isHex c ∧ C19.isHex d ∧ C19.isHex e ∧ C19.isHex f := by
  rw [← C19.hexToAnsi_accepts_iff, Gen19h.hexToAnsi_eq]
  cases Config.hexToAnsi s with
  | none => simp
  | some v => simp

/-- What the Go `hexToAnsi` returns is the three byte values in decimal, each between 0 and 255,
    separated by `;`. -/
theorem generated_hexToAnsi_value (s : Str) (out : Bytes)
    (h : GenHex.hexToAnsi (utf8 s) = .ok out) :
    ∃ r g b : Nat, r ≤ 255 ∧ g ≤ 255 ∧ b ≤ 255 ∧
      out = utf8 (Style.itoa r ++ ';' :: Style.itoa g ++ ';' :: Style.itoa b) := by
  rw [Gen19h.hexToAnsi_eq] at h
  cases hm : Config.hexToAnsi s with
  | none => rw [hm] at h; cases h
  | some v =>
    rw [hm] at h
    obtain ⟨r, g, b, hr, hg, hb, hv⟩ := C19.hexToAnsi_value s v hm
    exact ⟨r, g, b, hr, hg, hb, by rw [← Except.ok.inj h, hv]⟩

/-- Refusal is an error value; nothing makes `hexToAnsi` panic (the slices are cut after the
    length test). -/
theorem generated_hexToAnsi_refuses (s : Str) (h : Config.hexToAnsi s = none) :
    ∃ e, GenHex.hexToAnsi (utf8 s) = .error (.err e) :=
  (Gen19h.hexToAnsi_error_iff s).mpr h

def isHexByte (x : UInt8) : Bool :=
  (48 ≤ x ∧ x ≤ 57) || (97 ≤ x ∧ x ≤ 102) || (65 ≤ x ∧ x ≤ 70)

theorem hexByte_isSome_iff (x : UInt8) : (hexByte x).isSome = isHexByte x := by
  revert x
  apply forall_byte
  decide +kernel

/-- (1) on raw bytes — also those that are no UTF-8, which the model's strings cannot express:
    accepted iff `#` and six hexadecimal digit bytes. -/
theorem generated_hexToAnsi_bytes_accepts_iff (text : Bytes) :
    (∃ out, GenHex.hexToAnsi text = .ok out) ↔
      ∃ x1 x2 x3 x4 x5 x6, text = [35, x1, x2, x3, x4, x5, x6] ∧
        isHexByte x1 ∧ isHexByte x2 ∧ isHexByte x3 ∧ isHexByte x4 ∧ isHexByte x5 ∧ isHexByte x6 := by
  simp only [← hexByte_isSome_iff, Option.isSome_iff_exists]
  constructor
  · rintro ⟨out, h⟩
    rcases Gen19h.hexToAnsi_bytes text with ⟨x1, x2, x3, x4, x5, x6, a1, a2, a3, a4, a5, a6, rfl, h1, h2, h3, h4, h5, h6, -⟩ | he
    · exact ⟨x1, x2, x3, x4, x5, x6, rfl, ⟨a1, h1⟩, ⟨a2, h2⟩, ⟨a3, h3⟩, ⟨a4, h4⟩, ⟨a5, h5⟩, ⟨a6, h6⟩⟩
    · rw [he] at h; cases h
  · rintro ⟨x1, x2, x3, x4, x5, x6, rfl, ⟨a1, h1⟩, ⟨a2, h2⟩, ⟨a3, h3⟩, ⟨a4, h4⟩, ⟨a5, h5⟩, ⟨a6, h6⟩⟩
    exact ⟨_, Gen19h.eval_hex h1 h2 h3 h4 h5 h6⟩

/-- Non-vacuity: the documented example colour, through the translated code. -/
example : GenHex.hexToAnsi (utf8 "#fcba03".toList) = .ok (utf8 "252;186;3".toList) :=
  (Gen19h.hexToAnsi_ok_iff _ _).mpr (by decide +kernel)

/-- A non-ASCII character: `#1234é` is seven BYTES long (so it passes the length test of the Go
    code) and six characters; the last slice holds the two bytes of `é` and is no number. -/
example : (utf8 "#1234é".toList).length = 7 ∧
    ∃ e, GenHex.hexToAnsi (utf8 "#1234é".toList) = .error (.err e) :=
  ⟨by decide, (Gen19h.hexToAnsi_error_iff _).mpr (by decide +kernel)⟩

/-- Seven characters, one of them non-ASCII (eight bytes): refused by the length test. -/
example : ∃ e, GenHex.hexToAnsi (utf8 "#12345é".toList) = .error (.err e) :=
  (Gen19h.hexToAnsi_error_iff _).mpr (by decide +kernel)

end GenT19h
