import Model.Link
import Generated.GoLink
import Proofs.Link
import Proofs.Gen16

/-
  The tie by translation for C12 / C20 (link selection): `Generated/GoLink.lean` is produced from
  pub/link.go by `extract/go2lean5.go` on every run — the `Link` struct (each `x`, `xErr` pair one
  `Obj.R` field), `NewLink`, `Alt`, `rating`, `SelectBestLink` (its loop as the recursive
  `SelectBestLink_loop`), `SelectFirstLink`, `Select`, `SelectWithDefaultMediaType`.  The theorems
  below say that each of them computes what the hand-written model (`Model/Link.lean`) computes;
  the C20b theorems are stated over that model and hold of the code as translated
  (`Props/GenT20.lean`).

  `conv` / `back` identify the translated struct with `Link.T` (same fields, same order).  The
  two functions that index a slice return `Except Panic (…)`: their theorems have the form
  `… = .ok (…)`, which also says that `links[0]` and `links[1:]` never panic.  `SelectBestLink`
  passes on the error it met where the model says "an ordinary error"; they agree because none of
  those errors is ever `ErrKeyNotPresent` (`bestLoop_error`).  `NewLink`'s model keeps only whether
  it failed, so `newLink_eq` compares through `Except.toOption`.
-/

namespace Gen20
open Obj

/-- A comparison with a string literal in translated code, as the models write it. -/
theorem ite_str {α : Type} (t : Str) (s : String) (a b : α) :
    (if decide (t = Go.str s) = true then a else b) = if t = s.toList then a else b := by
  show (if decide (t = s.toList) = true then a else b) = _
  by_cases h : t = s.toList <;> simp only [h, decide_true, decide_false, ↓reduceIte, Bool.false_eq_true]

def conv (l : GenLink.Link) : Link.T :=
  { kind := l.kind, mediaType := l.mediaType, uri := l.uri, alt := l.alt, height := l.height, width := l.width }

def back (t : Link.T) : GenLink.Link :=
  { kind := t.kind, mediaType := t.mediaType, uri := t.uri, alt := t.alt, height := t.height, width := t.width }

theorem conv_back (t : Link.T) : conv (back t) = t := rfl

theorem back_conv (l : GenLink.Link) : back (conv l) = l := rfl

theorem rating_eq (l : GenLink.Link) : GenLink.rating l = Link.rating (conv l) := by
  obtain ⟨k, m, u, a, h, w⟩ := l
  rcases h with (_ | _) | h <;> rcases w with (_ | _) | w <;> rfl

theorem alt_eq (l : GenLink.Link) : GenLink.Alt l = Link.alt (conv l) := by
  obtain ⟨k, m, u, a, h, w⟩ := l
  rcases a with (_ | _) | a <;> rcases u with _ | u <;> rfl

def sel (p : Str × Mime.MediaType) : Link.Sel := ⟨p.1, p.2⟩

theorem selectWithDefault_eq (l : GenLink.Link) (d : Mime.MediaType) :
    (GenLink.SelectWithDefaultMediaType l d).map sel = Link.selectWithDefault (conv l) d := by
  obtain ⟨k, m, u, a, h, w⟩ := l
  rcases u with _ | u
  · rfl
  · rcases m with _ | m
    · exact apply_ite (Option.map sel) _ _ _
    · rfl

theorem select_eq (l : GenLink.Link) :
    (GenLink.Select l).map sel = Link.select (conv l) := by
  unfold GenLink.Select Link.select
  exact selectWithDefault_eq l Mime.unknown

theorem selectFirst_eq (ls : List GenLink.Link) :
    GenLink.SelectFirstLink ls = .ok ((Link.selectFirst (ls.map conv)).map back) := by
  cases ls with
  | nil => rfl
  | cons l rest => rfl

variable {Time : Type}

theorem newLink_eq (L : Libs Time Link.Url) (v : JVal) :
    (GenLink.NewLink L v).toOption.map conv = Link.new L v := by
  cases v with
  | obj o =>
    have hkinds : [Go.str "Link", Go.str "Audio", Go.str "Document", Go.str "Image", Go.str "Video"] = Link.kinds := rfl
    rw [GenLink.NewLink, Link.new, Link.ofObject, hkinds, show Go.assert_map (JVal.obj o) = (o, true) from rfl]
    simp only [Bool.not_true, Bool.false_eq_true, ↓reduceIte, ite_str]
    show Option.map conv (Except.toOption (match getString o "type".toList with
      | .error err => .error err
      | .ok k => _)) = _
    cases getString o "type".toList with
    | error e => rfl
    | ok kind =>
      simp only
      by_cases hc : (!Link.kinds.contains kind) = true
      · rw [if_pos hc, if_pos hc]; rfl
      rw [if_neg hc, if_neg hc]
      by_cases hk : kind = "Link".toList
      · rw [if_pos hk, if_pos hk]; rfl
      · rw [if_neg hk, if_neg hk]; rfl
  | _ => rfl

/-- How the loop of `SelectBestLink` asks whether a link's media type has the wanted supertype and goes
    on with the answer (`errors.Is(…mediaTypeErr, ErrKeyNotPresent)`, else `…mediaTypeErr != nil`, else the
    comparison): the translated loop has this once for `bestLink` and, in each branch, once for
    `thisLink`. -/
def matchesThen (sup : Str) (l : GenLink.Link) (k : Bool → Except Panic (R GenLink.Link)) :
    Except Panic (R GenLink.Link) :=
  if Go.errIs l.mediaType Err.absent then k false
  else match l.mediaType with
    | .error e => .ok (.error e)
    | .ok m => k (decide (m.supertype = sup))

/-- What the loop does with the two answers of `matchesThen`, in each of the four copies. -/
def compareThen (sup : Str) (best this : GenLink.Link) (rest : List GenLink.Link) (bm tm : Bool) :
    Except Panic (R GenLink.Link) :=
  if tm && !bm then GenLink.SelectBestLink_loop sup this rest
  else if !tm && bm then GenLink.SelectBestLink_loop sup best rest
  else match GenLink.rating this with
    | .error e => .ok (.error e)
    | .ok tr =>
      match GenLink.rating best with
      | .error e => .ok (.error e)
      | .ok br =>
        if decide (tr > br) then GenLink.SelectBestLink_loop sup this rest
        else GenLink.SelectBestLink_loop sup best rest

theorem loop_shape (sup : Str) (best this : GenLink.Link) (rest : List GenLink.Link) :
    GenLink.SelectBestLink_loop sup best (this :: rest) =
      matchesThen sup best fun bm => matchesThen sup this fun tm => compareThen sup best this rest bm tm := rfl

theorem matchesThen_eq (sup : Str) (l : GenLink.Link) (k : Bool → Except Panic (R GenLink.Link)) :
    matchesThen sup l k =
      match Link.supertypeMatches (conv l) sup with
      | .error e => .ok (.error e)
      | .ok b => k b := by
  obtain ⟨_, m, _, _, _, _⟩ := l
  rcases m with (_ | _) | m <;> rfl

theorem loop_cons (sup : Str) (best this : GenLink.Link) (rest : List GenLink.Link) :
    GenLink.SelectBestLink_loop sup best (this :: rest) =
      match Link.bestStep sup (conv best) (conv this) with
      | .error e => .ok (.error e)
      | .ok b => GenLink.SelectBestLink_loop sup (back b) rest := by
  rw [loop_shape, matchesThen_eq, Link.bestStep]
  cases Link.supertypeMatches (conv best) sup with
  | error e => rfl
  | ok bm =>
    simp only [matchesThen_eq]
    cases Link.supertypeMatches (conv this) sup with
    | error e => rfl
    | ok tm =>
      simp only [compareThen, rating_eq]
      by_cases h1 : (tm && !bm) = true
      · rw [if_pos h1, if_pos h1]; rfl
      rw [if_neg h1, if_neg h1]
      by_cases h2 : (!tm && bm) = true
      · rw [if_pos h2, if_pos h2]; rfl
      rw [if_neg h2, if_neg h2]
      cases Link.rating (conv this) with
      | error e => rfl
      | ok tr =>
        cases Link.rating (conv best) with
        | error e => rfl
        | ok br =>
          by_cases h : tr > br
          · simp only [h, decide_true, if_true]; rfl
          · simp only [h, decide_false, Bool.false_eq_true, if_false]; rfl

theorem loop_eq (sup : Str) (rest : List GenLink.Link) : ∀ best : GenLink.Link,
    GenLink.SelectBestLink_loop sup best rest =
      .ok ((Link.bestLoop sup (conv best) (rest.map conv)).map back) := by
  induction rest with
  | nil => intro best; rfl
  | cons this rest ih =>
    intro best
    rw [loop_cons, List.map_cons, Link.bestLoop]
    cases Link.bestStep sup (conv best) (conv this) with
    | error e => rfl
    | ok b => exact ih (back b)

theorem supertypeMatches_error {l : Link.T} {sup : Str} {e : Err}
    (h : Link.supertypeMatches l sup = .error e) : e = .wrong := by
  unfold Link.supertypeMatches at h
  rcases hm : l.mediaType with (_ | _) | m <;> rw [hm] at h <;> simp at h
  exact h.symm

theorem rating_error {l : Link.T} {e : Err} (h : Link.rating l = .error e) : e = .wrong := by
  obtain ⟨k, m, u, a, hh, w⟩ := l
  rcases hh with (_ | _) | hh <;> rcases w with (_ | _) | w <;> simp [Link.rating] at h <;> exact h.symm

/-- An error of one iteration is an error of `supertypeMatches` or of `rating`. -/
theorem bestStep_error {sup : Str} {best this : Link.T} {e : Err}
    (h : Link.bestStep sup best this = .error e) : e = .wrong := by
  unfold Link.bestStep at h
  split at h
  · exact Except.error.inj h ▸ supertypeMatches_error ‹_›
  split at h
  · exact Except.error.inj h ▸ supertypeMatches_error ‹_›
  split at h
  · cases h
  split at h
  · cases h
  split at h
  · exact Except.error.inj h ▸ rating_error ‹_›
  split at h
  · exact Except.error.inj h ▸ rating_error ‹_›
  · cases h

theorem bestLoop_error {sup : Str} {rest : List Link.T} : ∀ {best : Link.T} {e : Err},
    Link.bestLoop sup best rest = .error e → e = .wrong := by
  induction rest with
  | nil => intro best e h; cases h
  | cons this rest ih =>
    intro best e h
    rw [Link.bestLoop] at h
    cases hs : Link.bestStep sup best this with
    | error e1 => rw [hs] at h; simp at h; subst h; exact bestStep_error hs
    | ok b => rw [hs] at h; exact ih h

theorem selectBest_eq (ls : List GenLink.Link) (sup : Str) :
    GenLink.SelectBestLink ls sup = .ok ((Link.selectBest (ls.map conv) sup).map back) := by
  cases ls with
  | nil => rfl
  | cons l rest =>
    have hlen : decide (Go.len (l :: rest) = 0) = false :=
      decide_eq_false (by simp only [Go.len, List.length_cons]; omega)
    have hidx : Go.index (l :: rest) 0 = .ok l := rfl
    have hsl : Go.sliceFrom (l :: rest) 1 = .ok rest := Gen16.sliceFrom_nat (l :: rest) 1 (Nat.le_add_left 1 _)
    unfold GenLink.SelectBestLink
    simp only [hlen, hidx, hsl, Bool.false_eq_true, if_false]
    rw [loop_eq, List.map_cons, Link.selectBest]
    cases hb : Link.bestLoop sup (conv l) (rest.map conv) with
    | ok b => rfl
    | error e => cases bestLoop_error hb; rfl

end Gen20
