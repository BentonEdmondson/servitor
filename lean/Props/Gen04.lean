import Model
import Generated.GoJtpfront
import Proofs.C03
import Props.Gen03

/-
  The tie by translation for C04 / C05 (and the cache and redirect bookkeeping of C03): the
  statements of `jtp.Get` BEFORE `buf := bufio.NewReader(connection)` are translated from the
  source on every run by `extract/go2lean18.go` into `Generated/GoJtpfront.lean`
  (`GenJtpFront.Get_front`; `Get_once` = `Get_front` followed by `GenJtp.Get_response`, the
  translation of the statements after it, `Props/Gen03.lean`).

  The world the code calls is the parameter `W : GenJtpFront.Ext Doc Conn` (what `cache.Get`
  finds, whether `tls.DialWithDialer` yields a connection, whether `SetDeadline` / `Write` fail,
  what the connection delivers); the link is a `Go.Net.URL`, the record of what the accessors of
  `*url.URL` return; `timeout` is `config.Parsed.Network.Timeout`.  The theorems up to
  `non_https_never_dials` hold for EVERY `W`, link, accept string, tolerated list, budget and
  timeout; `get_step_eq` is about a world that is the model's at this link, and such a world
  exists for every model world (`step_hypotheses_hold`).
-/

namespace Gen04
open Jtp GenJtpFront
open Go.Net (URL)

variable {Doc Conn : Type}

theorem join_eq (tol : List Str) (sep : Str) : Go.Strings.join tol sep = List.intercalate sep tol := by
  induction tol with
  | nil => rfl
  | cons a t ih =>
    cases t with
    | nil => simp [Go.Strings.join, List.intercalate]
    | cons b t =>
      rw [Go.Strings.join, ih]
      · simp [List.intercalate]
      · exact nofun

/-- The key under which `Get` looks a link up: the model's. -/
theorem key_eq (tol : List Str) (link : URL) :
    ((Go.Strings.join tol (Go.str ",")) ++ (Go.str " ")) ++ link.String = cacheKey tol link.String := by
  rw [join_eq]; simp [cacheKey, Go.str]

/-- The operands of the one `connection.Write`, in the order of the source: the model's request. -/
theorem request_eq (uri host accept : Str) :
    ((((((((((Go.str "GET ") ++ uri) ++ (Go.str " HTTP/1.0\r\n")) ++ (Go.str "Host: ")) ++ host) ++
      (Go.str "\r\n")) ++ (Go.str "Accept: ")) ++ accept) ++ (Go.str "\r\n")) ++ (Go.str "\r\n"))
      = Jtp.request uri host accept := by
  unfold Jtp.request Go.str
  simp only [List.append_assoc]
  -- literals as character lists: `String.toList` on a literal is slow to evaluate
  repeat rewrite [String.toList_ofList]
  rfl

def portOf (link : URL) : Str := if link.Port = Go.str "" then Go.str "443" else link.Port

/-- The address handed to the dialer. -/
def targetOf (link : URL) : Str := Go.Net.joinHostPort link.Hostname (portOf link)

/-- `net.JoinHostPort` on a host name or IPv4 literal: `host:port`. -/
theorem joinHostPort_plain (host port : Str) (h : ':' ∉ host) :
    Go.Net.joinHostPort host port = host ++ ':' :: port := by
  unfold Go.Net.joinHostPort
  rw [if_neg (by simpa using h)]
  simp [Go.str]

/-- `net.JoinHostPort` on an IPv6 literal: `[host]:port` (`Hostname()` strips the brackets,
    `JoinHostPort` puts them back). -/
theorem joinHostPort_v6 (host port : Str) (h : ':' ∈ host) :
    Go.Net.joinHostPort host port = '[' :: host ++ ']' :: ':' :: port := by
  unfold Go.Net.joinHostPort
  rw [if_pos (by simpa using h)]
  simp [Go.str]

def refusedText : Str := Go.str "received a redirect after redirecting too many times"

def unsupportedText (scheme : Str) : Str := scheme ++ Go.str " is not supported in requests, only https"

def afterDial (W : Ext Doc Conn) (timeout : Int) (link : URL) (accept : Str) (key : Str) (c : Conn) :
    Front Doc Conn :=
  let dialed : Act Conn := .dial (dialer timeout) (Go.str "tcp") (targetOf link)
  let req := Jtp.request link.RequestURI link.Host accept
  if timeout > 0 then
    if W.setDeadlineFails then
      .failed (.of "connection.SetDeadline") [dialed, .setDeadline c timeout, .close c]
    else if W.writeFails then
      .failed (.of "connection.Write") [dialed, .setDeadline c timeout, .write c req, .close c]
    else .reading key c [dialed, .setDeadline c timeout, .write c req]
  else
    if W.writeFails then .failed (.of "connection.Write") [dialed, .write c req, .close c]
    else .reading key c [dialed, .write c req]

/-- The front part of `Get`, written out by hand against the model's `cacheKey` and `request`. -/
def front_spec (W : Ext Doc Conn) (timeout : Int) (link : URL) (accept : Str) (tol : List Str)
    (n : Nat) : Front Doc Conn :=
  match W.cacheGet (cacheKey tol link.String) with
  | some b =>
    match b.redirect with
    | none => .done b.item b.source
    | some t => if n = 0 then .failed (.new refusedText) [] else .again (some t) (n - 1)
  | none =>
    if link.Scheme ≠ Go.str "https" then .failed (.new (unsupportedText link.Scheme)) []
    else match W.dial (dialer timeout) (Go.str "tcp") (targetOf link) with
      | none => .failed (.of "tls.DialWithDialer") [.dial (dialer timeout) (Go.str "tcp") (targetOf link)]
      | some c => afterDial W timeout link accept (cacheKey tol link.String) c

theorem front_eq (W : Ext Doc Conn) (timeout : Int) (link : URL) (accept : Str) (tol : List Str)
    (n : Nat) : Get_front W timeout link accept tol n = front_spec W timeout link accept tol n := by
  unfold Get_front front_spec
  simp only [key_eq, request_eq, decide_eq_true_eq, List.nil_append, List.cons_append]
  -- with the model's key and request in place, a miss is `front_spec`'s by unfolding `targetOf`,
  -- `unsupportedText` and `afterDial`; a hit differs in how `redirect` is tested and in `usub`
  cases W.cacheGet (cacheKey tol link.String) with
  | none => rfl
  | some b =>
    dsimp only
    cases b.redirect with
    | none => rfl
    | some t => cases n <;> rfl

/-- What a result says was done on the network. -/
def actsOf : Front Doc Conn → List (Act Conn)
  | .done _ _ => []
  | .again _ _ => []
  | .failed _ a => a
  | .reading _ _ a => a

/-- A remembered link, or a scheme other than https: nothing is done on the network and no
    response is read. -/
theorem front_quiet (W : Ext Doc Conn) (timeout : Int) (link : URL) (accept : Str) (tol : List Str) (n : Nat)
    (h : W.cacheGet (cacheKey tol link.String) = none → link.Scheme ≠ Go.str "https") :
    actsOf (Get_front W timeout link accept tol n) = [] ∧
      ∀ key c acts, Get_front W timeout link accept tol n ≠ .reading key c acts := by
  rw [front_eq]; unfold front_spec
  cases hg : W.cacheGet (cacheKey tol link.String) with
  | some b =>
    dsimp only
    cases b.redirect with
    | none => exact ⟨rfl, nofun⟩
    | some t => cases n <;> exact ⟨rfl, nofun⟩
  | none => dsimp only; rw [if_pos (h hg)]; exact ⟨rfl, nofun⟩

theorem front_miss (W : Ext Doc Conn) (timeout : Int) (link : URL) (accept : Str) (tol : List Str) (n : Nat)
    (hm : W.cacheGet (cacheKey tol link.String) = none) (hs : link.Scheme = Go.str "https") :
    Get_front W timeout link accept tol n =
      match W.dial (dialer timeout) (Go.str "tcp") (targetOf link) with
      | none => .failed (.of "tls.DialWithDialer") [.dial (dialer timeout) (Go.str "tcp") (targetOf link)]
      | some c => afterDial W timeout link accept (cacheKey tol link.String) c := by
  rw [front_eq]; unfold front_spec
  rw [hm]
  exact if_neg (not_not_intro hs)

/-- Every result's network record is one of seven shapes: nothing; a dial; a dial, then (if a
    positive timeout is configured) a deadline, then at most one write, then possibly a close. -/
theorem acts_shapes (W : Ext Doc Conn) (timeout : Int) (link : URL) (accept : Str) (tol : List Str) (n : Nat) :
    let d : Act Conn := .dial (dialer timeout) (Go.str "tcp") (targetOf link)
    let req := Jtp.request link.RequestURI link.Host accept
    actsOf (Get_front W timeout link accept tol n) = [] ∨
    actsOf (Get_front W timeout link accept tol n) = [d] ∨
    (∃ c, W.dial (dialer timeout) (Go.str "tcp") (targetOf link) = some c ∧ link.Scheme = Go.str "https" ∧
      ((timeout > 0 ∧ (actsOf (Get_front W timeout link accept tol n) = [d, .setDeadline c timeout, .close c] ∨
          actsOf (Get_front W timeout link accept tol n) = [d, .setDeadline c timeout, .write c req, .close c] ∨
          actsOf (Get_front W timeout link accept tol n) = [d, .setDeadline c timeout, .write c req])) ∨
       (¬ timeout > 0 ∧ (actsOf (Get_front W timeout link accept tol n) = [d, .write c req, .close c] ∨
          actsOf (Get_front W timeout link accept tol n) = [d, .write c req])))) := by
  intro d req
  by_cases hm : W.cacheGet (cacheKey tol link.String) = none
  case neg => exact .inl (front_quiet W timeout link accept tol n (absurd · hm)).1
  by_cases hs : link.Scheme = Go.str "https"
  case neg => exact .inl (front_quiet W timeout link accept tol n fun _ => hs).1
  rw [front_miss W timeout link accept tol n hm hs]
  cases hd : W.dial (dialer timeout) (Go.str "tcp") (targetOf link) with
  | none => exact .inr (.inl rfl)
  | some c =>
    refine .inr (.inr ⟨c, rfl, hs, ?_⟩)
    simp only [afterDial]
    by_cases ht : timeout > 0
    · rw [if_pos ht]
      refine .inl ⟨ht, ?_⟩
      cases W.setDeadlineFails
      · cases W.writeFails
        · exact .inr (.inr rfl)
        · exact .inr (.inl rfl)
      · exact .inl rfl
    · rw [if_neg ht]
      refine .inr ⟨ht, ?_⟩
      cases W.writeFails
      · exact .inr rfl
      · exact .inl rfl

/-- The bytes the translated code writes are the model's request, for every link and accept
    string: request line with `RequestURI()`, `Host:` with `link.Host`, `Accept:`, blank line. -/
theorem written_eq (W : Ext Doc Conn) (timeout : Int) (link : URL) (accept : Str) (tol : List Str) (n : Nat)
    (c : Conn) (bytes : Str) (h : Act.write c bytes ∈ actsOf (Get_front W timeout link accept tol n)) :
    bytes = Jtp.request link.RequestURI link.Host accept := by
  rcases acts_shapes W timeout link accept tol n with e | e | ⟨c', _, _, ⟨_, e | e | e⟩ | ⟨_, e | e⟩⟩ <;>
    rw [e] at h <;> simp at h <;> exact h.2

/-- Every connection goes to `JoinHostPort(Hostname(), Port())`, port 443 when the link names none,
    over "tcp" with the package's dialer. -/
theorem dial_target (W : Ext Doc Conn) (timeout : Int) (link : URL) (accept : Str) (tol : List Str) (n : Nat)
    (d : Go.Net.Dialer) (network addr : Str)
    (h : Act.dial d network addr ∈ actsOf (Get_front W timeout link accept tol n)) :
    d = dialer timeout ∧ network = Go.str "tcp" ∧
      addr = Go.Net.joinHostPort link.Hostname (if link.Port = [] then "443".toList else link.Port) := by
  show d = dialer timeout ∧ network = Go.str "tcp" ∧ addr = targetOf link
  rcases acts_shapes W timeout link accept tol n with e | e | ⟨c', _, _, ⟨_, e | e | e⟩ | ⟨_, e | e⟩⟩ <;>
    rw [e] at h <;> simp at h <;> exact h

/-- A link whose scheme is not `https` never reaches the dialer: nothing at all is done on the
    network, whatever the cache holds. -/
theorem non_https_never_dials (W : Ext Doc Conn) (timeout : Int) (link : URL) (accept : Str) (tol : List Str)
    (n : Nat) (hs : link.Scheme ≠ Go.str "https") :
    actsOf (Get_front W timeout link accept tol n) = [] :=
  (front_quiet W timeout link accept tol n fun _ => hs).1

/-- A bundle in the code's cache stands for an entry of the model's (URLs as their `String()`):
    the two shapes `Get` files (`GenJtp.Get_response`, `Gen03.replyOf`). -/
inductive Rep : GenJtp.bundle URL Doc → Entry Doc → Prop where
  | doc (d : Doc) (s : URL) : Rep { item := some d, source := some s, redirect := none } (.doc d s.String)
  | redirect (t : URL) : Rep { item := none, source := none, redirect := some t } (.redirect t.String)

/-- The connections a network record opened, as the model counts them: one per dial. -/
def opened (u : Url) (acts : List (Act Conn)) : List Url :=
  acts.filterMap fun a => match a with
    | .dial _ _ _ => some u
    | _ => none

/-- One call of `Get` as translated — `Get_front`, the reader, `Get_response` — in a world that is
    the model's at this link: the cache lookup finds what the model's cache holds under the key,
    `https` is the scheme test, `serve` is the dial followed by what the connection delivers,
    `SetDeadline`/`Write`/`Close` do not fail (the model has no such failures), decoder and
    resolver as in `Gen03.get_fresh_eq`.  Then `Jtp.get` at this link is: the remembered document;
    the model's `get` at the remembered redirect with one unit less, or an error at budget 0; an
    error without a connection for another scheme; an error after one connection when the dial
    fails; otherwise what the translated response part returns, with the entry it files. -/
theorem get_step_eq (env : Env Doc) (V : GenJtp.Ext URL Mime.MediaType Doc) (W : Ext Doc Conn)
    (timeout : Int) (link : URL) (accept : Str) (tol : List Str) (budget : Nat) (cache : Cache Doc)
    (hV : Gen03.Faithful V) (hc : V.closeFails = false) (hd : V.decode = env.decode)
    (hr : ∀ v, (V.urlParse v).map (fun r => (V.resolveReference link r).String) = env.resolve link.String v)
    (hs : env.https link.String = decide (link.Scheme = Go.str "https"))
    (hserve : env.serve link.String = (W.dial (dialer timeout) (Go.str "tcp") (targetOf link)).map W.newReader)
    (hdl : W.setDeadlineFails = false) (hw : W.writeFails = false)
    (hcache : match (cache.get (cacheKey tol link.String)).1 with
      | none => W.cacheGet (cacheKey tol link.String) = none
      | some e => ∃ b, W.cacheGet (cacheKey tol link.String) = some b ∧ Rep b e) :
    get env tol budget cache link.String =
      (let u := link.String
       let key := cacheKey tol u
       let cache' := (cache.get key).2
       match Get_once V W timeout link accept tol budget with
       | .front (.done (some d) (some src)) => ⟨.ok d src.String, cache', []⟩
       | .front (.again (some t) b) => get env tol b cache' t.String
       | .front (.failed _ acts) => ⟨.err, cache', opened u acts⟩
       | .front _ => ⟨.err, cache', []⟩
       | .response acts (.error _) => ⟨.err, cache', opened u acts⟩
       | .response acts (.ok (.done d _ _)) => ⟨.ok d u, cache'.add key (.doc d u), opened u acts⟩
       | .response acts (.ok (.again none _ _)) => ⟨.err, cache', opened u acts⟩
       | .response acts (.ok (.again (some t) b _)) =>
         let r := get env tol b (cache'.add key (.redirect t.String)) t.String
         ⟨r.res, r.cache, opened u acts ++ r.requests⟩) := by
  unfold Get_once
  rw [front_eq, Jtp.get]; unfold front_spec
  dsimp only
  rcases hg : cache.get (cacheKey tol link.String) with ⟨e, c'⟩
  rw [hg] at hcache
  simp only
  cases e with
  | some e =>
    obtain ⟨b, hb, hrep⟩ := hcache
    rw [hb]
    cases hrep with
    | doc d s => rfl
    | redirect t => cases budget <;> rfl
  | none =>
    simp only at hcache
    rw [hcache]
    by_cases hsch : link.Scheme = Go.str "https"
    case neg => simp only [hs, hsch, ne_eq, not_false_eq_true, decide_false, Bool.not_false, if_true]; rfl
    simp only [hs, hsch, ne_eq, not_true_eq_false, decide_true, Bool.not_true, Bool.false_eq_true, if_false,
      hserve]
    cases hdial : W.dial (dialer timeout) (Go.str "tcp") (targetOf link) with
    | none => rfl
    | some c =>
      simp only [afterDial, hdl, hw, Bool.false_eq_true, if_false, Option.map]
      -- with the deadline or without, the record holds one dial; then the response is read
      rw [← apply_ite (Front.reading _ c)]
      generalize hacts : ite (timeout > 0) _ _ = acts
      have ho : opened link.String acts = [link.String] := by rw [← hacts]; split <;> rfl
      simp only [Gen03.response_eq hV hc]
      cases exchange tol (W.newReader c) with
      | err => simp only [Gen03.replyOf, ho]
      | doc body =>
        simp only [Gen03.replyOf, hd]
        cases env.decode body <;> simp only [ho]
      | redirect v =>
        simp only [Gen03.replyOf]
        rw [← hr v]
        cases V.urlParse v with
        | none => simp only [ho, Option.map]
        | some r => cases budget <;> simp [ho]

def urlOf (s : Str) : URL := { String := s }

def bundleOf : Entry Doc → GenJtp.bundle URL Doc
  | .doc d s => { item := some d, source := some (urlOf s), redirect := none }
  | .redirect t => { item := none, source := none, redirect := some (urlOf t) }

/-- The hypotheses of `get_step_eq` can be met, for every model world, cache and link whose
    scheme field agrees with the model's `https`: connections are the responses they deliver, the
    cache lookup is the model's, URLs are records of their `String()`. -/
theorem step_hypotheses_hold (env : Env Doc) (cache : Cache Doc) (tol : List Str) (timeout : Int) (link : URL) :
    ∃ (V : GenJtp.Ext URL Mime.MediaType Doc) (W : Ext Doc Str),
      Gen03.Faithful V ∧ V.closeFails = false ∧ V.decode = env.decode ∧
      (∀ v, (V.urlParse v).map (fun r => (V.resolveReference link r).String) = env.resolve link.String v) ∧
      env.serve link.String = (W.dial (dialer timeout) (Go.str "tcp") (targetOf link)).map W.newReader ∧
      W.setDeadlineFails = false ∧ W.writeFails = false ∧
      (match (cache.get (cacheKey tol link.String)).1 with
        | none => W.cacheGet (cacheKey tol link.String) = none
        | some e => ∃ b, W.cacheGet (cacheKey tol link.String) = some b ∧ Rep b e) := by
  refine ⟨Gen03.ext (fun v => (env.resolve link.String v).map urlOf) (fun _ r => r) env.decode false,
    { cacheGet := fun k => ((cache.get k).1).map bundleOf, dial := fun _ _ _ => env.serve link.String,
      setDeadlineFails := false, writeFails := false, newReader := id },
    Gen03.ext_faithful _ _ _ _, rfl, rfl, ?_, ?_, rfl, rfl, ?_⟩
  · intro v
    show ((env.resolve link.String v).map urlOf).map (fun r => r.String) = _
    cases env.resolve link.String v <;> rfl
  · show _ = (env.serve link.String).map id
    cases env.serve link.String <;> rfl
  · show match (cache.get (cacheKey tol link.String)).1 with
      | none => ((cache.get (cacheKey tol link.String)).1).map bundleOf = none
      | some e => ∃ b, ((cache.get (cacheKey tol link.String)).1).map bundleOf = some b ∧ Rep b e
    cases (cache.get (cacheKey tol link.String)).1 with
    | none => rfl
    | some e =>
      refine ⟨bundleOf e, rfl, ?_⟩
      cases e with
      | doc d s => exact Rep.doc d (urlOf s)
      | redirect t => exact Rep.redirect (urlOf t)

end Gen04
