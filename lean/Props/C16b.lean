import Model
import Props.C16
import Proofs.Cells
import Proofs.C16b

/-
  C16 (continued) — every frame `view()` produces is exactly as tall as the terminal.
-/

namespace C16
open Str Ansi

/-- Nothing in `Ui.frame` constrains the configured colours, and without a hypothesis on them the
    frame height fails: with `c.highlight = "\n"`, footer "a", width 1 and height 2,
    `Style.highlight c "a"` is `ESC[48;2;\nm a ESC[0m`, which contains a newline, so
    `ReplaceLastLine` panics ("new version of last line cannot contain a newline"). -/
theorem view_height_counterexample :
    ¬ ∃ out, Ui.frame ⟨[], [], ['\n'], []⟩ [] [] [] (some ['a']) 1 2 = .ok out ∧ Ansi.height out = 2 := by
  have h : (match Ui.frame ⟨[], [], ['\n'], []⟩ [] [] [] (some ['a']) 1 2 with
      | .ok _ => false | .error _ => true) = true := by decide
  rintro ⟨out, ho, _⟩
  rw [ho] at h
  cases h

/-- For every content above, at and below the cursor, every footer text (it may quote a
    link or hook output), every width ≥ 0 and every height ≥ 2 — every mode, status line or not —
    the frame has exactly `height` lines, and producing it does not panic, provided the configured
    highlight colour contains no newline. -/
theorem view_height (c : Colors) (top center bottom : Str) (footer : Option Str) (width : Int) (height : Nat)
    (hw : 0 ≤ width) (hh : 2 ≤ height) (hc : '\n' ∉ c.highlight) :
    ∃ out, Ui.frame c top center bottom footer width height = .ok out ∧ Ansi.height out = height := by
  have hcv : Ansi.height (centerVertically top center bottom height) = height :=
    center_height top center bottom height (by omega)
  unfold Ui.frame
  cases footer with
  | none => exact ⟨_, rfl, hcv⟩
  | some f =>
    obtain ⟨t, ht, hnl, _⟩ := setLength_no_newline f width '…' hw (by decide)
    simp only [ht]
    have hstyle : '\n' ∉ "48;2;".toList ++ c.highlight := by
      intro h
      rcases List.mem_append.mp h with h | h
      · exact absurd h (by decide)
      · exact hc h
    have hr : '\n' ∉ Style.highlight c t := C16b.apply_no_newline t _ hnl hstyle
    obtain ⟨out, ho, hout⟩ := replace_keeps_height (centerVertically top center bottom height)
      (Style.highlight c t) (by omega) hr
    exact ⟨out, ho, by rw [hout, hcv]⟩

/-- Every configuration `config.postprocess` accepts has such colours (`Cells.ColorsOk`, C19). -/
theorem view_height_colorsOk (c : Colors) (top center bottom : Str) (footer : Option Str) (width : Int)
    (height : Nat) (hw : 0 ≤ width) (hh : 2 ≤ height) (hc : Cells.ColorsOk c) :
    ∃ out, Ui.frame c top center bottom footer width height = .ok out ∧ Ansi.height out = height := by
  apply view_height c top center bottom footer width height hw hh
  intro hmem
  have hd := Cells.sgrOk_digs hc.2.2.1 '\n' (List.mem_append_right _ hmem)
  exact Cells.digs_ne_nl hd rfl

/-- Without a status line the frame has `height` lines for every height ≥ 1. -/
theorem view_height_no_footer (c : Colors) (top center bottom : Str) (width : Int) (height : Nat) (hh : 1 ≤ height) :
    ∃ out, Ui.frame c top center bottom none width height = .ok out ∧ Ansi.height out = height := by
  exact ⟨_, rfl, center_height top center bottom height hh⟩

end C16
