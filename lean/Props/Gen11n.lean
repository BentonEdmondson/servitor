import Model.Splicer
import Model.Ui
import Generated.GoSplicer
import Generated.GoGlue
import Proofs.Gen11

/-
  The tie by translation for `splicer.NewSplicer` (C11: what a feed is made of; C05: a feed opens —
  `wg.Wait()` returns): `extract/go2lean27.go` translates the constructor into
  `GenGlue.NewSplicer` and the goroutine it starts per input into `GenGlue.NewSplicer_go1`.  The
  goroutine is a function of its input and of the cell `s[i]` (the translator accepts the fan-out
  only if each closure writes `s[i]` alone, so the goroutines commute and are run in index order);
  its second result is the number of `wg.Done()` executed on the path taken, and the second result
  of `NewSplicer` is the counter `wg.Wait()` sees.

  Below: every path of the goroutine that does not panic executes `Done` exactly once, so the
  counter at `Wait` is 0 for every list of inputs (`Wait` returns: a feed cannot hang there); the
  result has one entry per input, in input order; what each kind of fetched value becomes; the only
  panic is the explicit one for a value that is neither a `pub.Tangible` nor a `*pub.Collection`; and
  with the model's `fetchUserInput` / `children` for the external functions the result is the model's
  `Ui.newSplicer` (what `switchTo` is given for a feed, and what the harness' `splice` op assumes a
  source is: basepoint 0, no buffered element, a page or none).
-/

namespace Gen11n
open GenGlue

variable {V Container Tangible Collection : Type}

def source (X : Ext V Container Tangible Collection) (input : Str) : Except Panic (GenSplicer.Source Container Tangible) :=
  match X.as_Tangible (X.FetchUserInput input) with
  | some t => .ok { basepoint := 0, page := X.Children t, elements := [] }
  | none =>
    match X.as_Collection (X.FetchUserInput input) with
    | some c => .ok { basepoint := 0, page := some (X.Collection_asContainer c), elements := [] }
    | none => .error (.explicit "cannot splice non-Tangible, non-Collection")

/-- The goroutine, path by path: the case `pub.Tangible` is tried first, then `*pub.Collection`; whatever
    the cell held before is overwritten; `Done` is executed once on both; anything else panics. -/
theorem go_eq (X : Ext V Container Tangible Collection) (input : Str) (cell : GenSplicer.Source Container Tangible) :
    NewSplicer_go1 X input cell = (source X input).map (fun c => (c, 1)) := by
  unfold NewSplicer_go1 source
  dsimp only
  cases X.as_Tangible (X.FetchUserInput input) with
  | some t => rfl
  | none => dsimp only; cases X.as_Collection (X.FetchUserInput input) <;> rfl

/-- **Every path of the goroutine that ends reaches `wg.Done()` exactly once.** -/
theorem done_exactly_once (X : Ext V Container Tangible Collection) (input : Str) (cell c : GenSplicer.Source Container Tangible) (d : Nat)
    (h : NewSplicer_go1 X input cell = .ok (c, d)) : d = 1 := by
  rw [go_eq] at h
  generalize source X input = r at h
  cases r <;> cases h
  rfl

/-- The only other path is the explicit panic (which ends the program: no `Wait` is left waiting). -/
theorem go_panics_only_explicitly (X : Ext V Container Tangible Collection) (input : Str) (cell : GenSplicer.Source Container Tangible) (e : Panic)
    (h : NewSplicer_go1 X input cell = .error e) :
    e = .explicit "cannot splice non-Tangible, non-Collection" ∧
    X.as_Tangible (X.FetchUserInput input) = none ∧ X.as_Collection (X.FetchUserInput input) = none := by
  rw [go_eq] at h
  unfold source at h
  split at h
  · cases h
  · split at h <;> cases h
    exact ⟨rfl, ‹_›, ‹_›⟩

/-- The loop of `NewSplicer` on the fresh slice: cell `k` is replaced by what input `k` becomes, up to the
    first input that panics; the counter comes back unchanged. -/
theorem ns_loop {σ : Type} (z : σ) (inputs : List Str)
    (f : Int → List σ × Int → Except Panic (ForInStep (List σ × Int))) (g : Str → Except Panic σ)
    (hf : ∀ (a b : List σ) (x : σ) (i : Str) (w : Int), inputs[a.length]? = some i →
      f (a.length : Int) (a ++ x :: b, w) = (g i).map fun y => .yield (a ++ y :: b, w))
    (w : Int) :
    forIn (Go.indices inputs) (List.replicate inputs.length z, w) f = (inputs.mapM g).map (·, w) := by
  suffices ∀ pre ins done, inputs = pre ++ ins → done.length = pre.length →
      forIn ((List.range' done.length ins.length).map fun (k : Nat) => (k : Int))
        (done ++ List.replicate ins.length z, w) f = (ins.mapM g).map fun ys => (done ++ ys, w) by
    rw [Gen11P.indices_eq]; exact this [] inputs [] rfl rfl
  intro pre ins done hin hd
  induction ins generalizing pre done with
  | nil => simp [pure, Except.pure, Except.map]
  | cons i ins ih =>
    simp only [List.length_cons, List.range'_succ, List.map_cons, List.forIn_cons, List.replicate_succ,
      List.mapM_cons]
    rw [hf done _ z i w (by rw [hin, hd]; simp)]
    cases g i with
    | error e => rfl
    | ok y =>
      have := ih (pre ++ [i]) (done ++ [y]) (hin.trans (List.append_cons ..)) (by simp [hd])
      simp only [List.length_append, List.append_assoc] at this
      exact this.trans (by cases ins.mapM g <;> rfl)

theorem index_mid' {α : Type} (a : List α) (x : α) (b : List α) :
    Go.index (a ++ x :: b) (a.length : Int) = .ok x := Gen11P.index_mid a x b

/-- **`NewSplicer`, for every list of inputs**: the sources the inputs become, in input order, and the
    counter `wg.Wait()` sees is 0 — or the panic of the first input that is neither kind of value. -/
theorem newSplicer_eq (X : Ext V Container Tangible Collection) (inputs : List Str) :
    NewSplicer X inputs = (inputs.mapM (source X)).map (fun s => (s, (0 : Int))) := by
  unfold NewSplicer
  have h0 : ¬ ((inputs.length : Int) < 0) := by omega
  simp only [Go.make, Go.len, h0, if_false, Int.toNat_natCast, Gen14.bind_ok]
  rw [ns_loop Go.zero inputs _ (source X)]
  · cases inputs.mapM (source X) <;> rfl
  · intro a b x i w hi
    simp only [Gen16.index_nat inputs a.length i hi, Gen11P.index_mid, go_eq, bind, Except.bind]
    cases source X i with
    | error e => rfl
    | ok y =>
      simp only [Except.map, Gen11P.modify_mid, pure, Except.pure]
      -- `wg.Add(1)` and the one `Done` cancel
      congr 3
      omega

/-- **`wg.Wait()` returns**: whenever `NewSplicer` gets as far as `Wait`, the counter is 0. -/
theorem wait_returns (X : Ext V Container Tangible Collection) (inputs : List Str) (s : GenSplicer.Splicer Container Tangible) (w : Int)
    (h : NewSplicer X inputs = .ok (s, w)) : w = 0 := by
  rw [newSplicer_eq] at h
  generalize inputs.mapM (source X) = r at h
  cases r <;> cases h
  rfl

theorem mapM_get {α β : Type} (g : α → Except Panic β) (xs : List α) (ys : List β) (h : xs.mapM g = .ok ys) :
    ys.length = xs.length ∧ ∀ (k : Nat) x, xs[k]? = some x → ∃ y, ys[k]? = some y ∧ g x = .ok y := by
  induction xs generalizing ys with
  | nil => cases h; exact ⟨rfl, nofun⟩
  | cons x xs ih =>
    rw [List.mapM_cons] at h
    cases hx : g x with
    | error e => rw [hx] at h; cases h
    | ok y =>
      cases hr : xs.mapM g with
      | error e => rw [hx, hr] at h; cases h
      | ok r =>
        rw [hx, hr] at h
        cases h
        obtain ⟨hl, hget⟩ := ih r hr
        refine ⟨congrArg (· + 1) hl, fun k x' hk => ?_⟩
        cases k with
        | zero => cases hk; exact ⟨y, rfl, hx⟩
        | succ k => exact hget k x' hk

/-- **One entry per input, in input order**: entry `k` is what input `k` became — a fresh source
    (basepoint 0, nothing buffered) whose page is the children of the Tangible, or the Collection itself. -/
theorem one_entry_per_input (X : Ext V Container Tangible Collection) (inputs : List Str) (s : GenSplicer.Splicer Container Tangible) (w : Int)
    (h : NewSplicer X inputs = .ok (s, w)) :
    s.length = inputs.length ∧
    ∀ (k : Nat) input, inputs[k]? = some input → ∃ c, s[k]? = some c ∧ source X input = .ok c ∧
      c.basepoint = 0 ∧ c.elements = [] := by
  rw [newSplicer_eq] at h
  cases hm : inputs.mapM (source X) with
  | error e => rw [hm] at h; cases h
  | ok ys =>
    rw [hm] at h
    cases h
    obtain ⟨hl, hget⟩ := mapM_get (source X) inputs _ hm
    refine ⟨hl, fun k input hk => ?_⟩
    obtain ⟨c, hc, hs⟩ := hget k input hk
    refine ⟨c, hc, hs, ?_⟩
    unfold source at hs
    split at hs
    · cases hs; exact ⟨rfl, rfl⟩
    · split at hs <;> cases hs
      exact ⟨rfl, rfl⟩

theorem no_input (X : Ext V Container Tangible Collection) : NewSplicer X [] = .ok ([], 0) := by
  rw [newSplicer_eq]; rfl

/-- `*pub.Collection` lacks methods `pub.Tangible` asks for: a collection never takes the first case,
    so the order of the two cases plays no part (the model tests for the collection first). -/
theorem collection_is_no_tangible : ∃ m ∈ tangibleMethods, m ∉ methods_Collection := by decide

section model
open Ui Pub

/-- The external functions as the model has them: `pub.FetchUserInput` is `Ui.fetchUserInput`, a fetched item
    is a `*pub.Collection` or a `pub.Tangible` (never both: `collection_is_no_tangible`), `Children()` is
    `Ui.children` (which only ever answers collections), a collection seen as a container pages generically. -/
def modelExt (w : World) : Ext Item CollC Item CollM where
  FetchUserInput := fetchUserInput w
  as_Tangible := fun it => match it with | .collection _ => none | x => some x
  as_Collection := fun it => match it with | .collection c => some c | _ => none
  Children := fun x => match children x with | some (.coll cc) => some cc | _ => none
  Collection_asContainer := fun c => ⟨c.page, .generic⟩

/-- **The translated `NewSplicer` builds the model's feed** (`Ui.newSplicer`), never panics on the model's items,
    and `Wait` returns. -/
theorem newSplicer_model (w : World) (inputs : List Str) :
    NewSplicer (modelExt w) inputs = .ok (Gen11.lift (Ui.newSplicer w inputs), 0) := by
  rw [newSplicer_eq, Ui.newSplicer, Gen11.lift, List.map_map]
  refine congrArg (Except.map _) ((congrArg inputs.mapM (funext fun i => ?_)).trans List.mapM_pure)
  unfold source modelExt
  dsimp only [Function.comp_apply]
  cases fetchUserInput w i <;> rfl

end model

end Gen11n
