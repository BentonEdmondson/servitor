import Model
import Generated.GoSwitch
import Generated.GoView
import Props.C07
import Props.Gen07s
import Props.GenT16v

/-
  C07 / C16 on `switchTo`, `loadSurroundings`, `SetWidthHeight` as translated from the Go source
  (`Generated/GoSwitch.lean`, regenerated on every run by `extract/go2lean24.go`), across the
  equalities of `Props/Gen07s.lean`:

  * after `SetWidthHeight w h` with a new size exactly one frame is drawn, from the state that has
    the new size, and the translated `view` (`Generated/GoView.lean`) makes it exactly `h` lines
    (`GenT16v.view_height`); with the old size nothing is drawn and nothing changes;
  * opening an item never panics and leaves a current page (also from the empty history);
  * the critical section of a loader, whenever it runs — its page current or left long ago —
    and whatever the world answered, changes only the page it was started for.
-/

namespace GenT07s
open Ui Pub Gen07 Gen07s

/-- The state `view` draws a frame from: the same state, each item as what it renders to. -/
def viewState (r : GT → GenView.Tangible) (g : SState) : GenView.State :=
  ⟨⟨g.h.elements.map (fun p =>
      ⟨⟨fun i => (p.feed.feed i).map r, p.feed.upperBound, p.feed.lowerBound, p.feed.index⟩, p.loadingUp, p.loadingDown⟩),
    g.h.index⟩, g.width, g.height, g.mode, g.buffer⟩

/-- **C16 on the translated `SetWidthHeight`**: a call with a size the state does not have yet
    draws exactly one frame, from the state with the new size — the state it leaves —, and that
    frame, by the translated `view`, has exactly `h` lines.  (Hypotheses: those of
    `GenT16v.view_height`, on the page shown.) -/
theorem resize_frame_height (c : Colors) (ctx : Int) (r : GT → GenView.Tangible) (g : SState) (w h : Int) (m : Mode)
    (hm : g.mode = Gen16v.modeNum m) (hne : ¬ (g.width = w ∧ g.height = h)) (hc : '\n' ∉ c.highlight)
    (hw : 0 ≤ w) (h2 : 2 ≤ h) (h62 : h < 2 ^ 62)
    (hpage : m ≠ .loading → ∃ p, GenHistory.Current (viewState r g).h = .ok p ∧ GenT16v.Full (Gen16v.pageView p).feed)
    (hsz : ∀ t ce b, viewParts c Gen16v.tangible m (Gen16v.curOf (viewState r g)) ctx w = .ok (t, ce, b) →
      t.length < 2 ^ 62 ∧ ce.length < 2 ^ 62 ∧ b.length < 2 ^ 62) :
    ∃ f out, GenSwitch.SetWidthHeight g w h = .ok ⟨f, [f], []⟩ ∧ f.width = w ∧ f.height = h ∧
      GenView.view c ctx (viewState r f) = .ok out ∧ (Ansi.height out : Int) = h := by
  have hs := setWidthHeight_eq g w h
  simp only [setWidthHeight, Gen07s.sizeOf, hne, if_false, if_true] at hs
  obtain ⟨out, ho, hh⟩ := GenT16v.view_height c ctx (viewState r { g with width := w, height := h }) m hm hc hw h2 h62
    hpage hsz
  exact ⟨{ g with width := w, height := h }, out, hs, rfl, rfl, ho, hh⟩

/-- With the size the state already has, `SetWidthHeight` draws nothing and changes nothing. -/
theorem resize_same (g : SState) : GenSwitch.SetWidthHeight g g.width g.height = .ok ⟨g, [], []⟩ := by
  have hs := setWidthHeight_eq g g.width g.height
  simpa [setWidthHeight, Gen07s.sizeOf] using hs

/-- **Opening an item never panics and leaves a current page**: the translated `switchTo` on an
    item, the loaders it starts run to completion, from every state whose history is well formed
    (empty, or with a current page), ends in a state with a current page; mode and buffer are
    kept. -/
theorem open_item_ok (w : World) (wd ht : Int) (s : Ui.State) (x : T) (hi : History.Inv s.hist)
    (hc : s.context + 1 < 2 ^ 64) :
    ∃ s' p, settle (E w) (cfgOf s) none (GenSwitch.switchTo (E w) (cfgOf s) (encS wd ht s) (.tangible (encT x))) =
        .ok (encS wd ht s') ∧
      GenHistory.Current (encS wd ht s').h = .ok p ∧ s'.mode = s.mode ∧ s'.buffer = s.buffer := by
  obtain ⟨s', h1, h2, h3, h4⟩ := C07.switchTo_item w s x hi
  have he := switchTo_eq w wd ht s none (.item x) hc
  rw [h1] at he
  have hcur := current_encHS s'.hist
  rw [C18.current_eq s'.hist h2.1] at hcur
  exact ⟨s', _, he, hcur, h3, h4⟩

/-- Opening a container (a collection, a feed) likewise, ending in normal mode. -/
theorem open_container_ok (w : World) (wd ht : Int) (s : Ui.State) (cn : Container) (hi : History.Inv s.hist)
    (hc : s.context + 1 < 2 ^ 64) :
    ∃ s' p, settle (E w) (cfgOf s) none (GenSwitch.switchTo (E w) (cfgOf s) (encS wd ht s) (.container cn)) =
        .ok (encS wd ht s') ∧
      GenHistory.Current (encS wd ht s').h = .ok p ∧ s'.mode = .normal ∧ s'.buffer = [] := by
  obtain ⟨s', h1, h2, h3, h4⟩ := C07.switchTo_container w s cn hi
  have he := switchTo_eq w wd ht s none (.container cn) hc
  rw [h1] at he
  have hcur := current_encHS s'.hist
  rw [C18.current_eq s'.hist h2.1] at hcur
  exact ⟨s', _, he, hcur, h3, h4⟩

theorem index_bad {α : Type} (xs : List α) (i : Int) (h : ¬ (0 ≤ i ∧ i.toNat < xs.length)) :
    Go.index xs i = .error .indexOutOfRange := by
  unfold Go.index
  by_cases hn : i < 0
  · simp [hn]
  · have : ¬ i.toNat < xs.length := fun hl => h ⟨by omega, hl⟩
    simp [hn, List.getElem?_eq_none (by omega : xs.length ≤ i.toNat)]

theorem set_own (g : SState) (n : Nat) (q : SPage) (fr : List SState) :
    let o : SOut := ⟨{ g with h := ⟨g.h.elements.set n q, g.h.index⟩ }, fr, []⟩
    o.state.h.index = g.h.index ∧ o.state.mode = g.mode ∧ o.state.buffer = g.buffer ∧
    o.state.width = g.width ∧ o.state.height = g.height ∧
    o.state.h.elements.length = g.h.elements.length ∧ o.started = [] ∧
    ∀ i, i ≠ n → o.state.h.elements[i]? = g.h.elements[i]? :=
  ⟨rfl, rfl, rfl, rfl, rfl, List.length_set, rfl, fun _ hi => List.getElem?_set_ne (Ne.symm hi)⟩

/-- **A loader that finishes changes only its own page.**  The critical section of the upward
    loader, run on ANY state — its page (at `pos`) may have been left since, other pages may
    have been opened, any mode, any buffer — with ANY answer of the world: if it does not panic,
    then the history index, mode, buffer and size are what they were, the history is as long as
    it was, every page but the one at `pos` is untouched, and no goroutine is started. -/
theorem up_loader_own_page (g : SState) (pos ctx : Int) (parents : List (Option GT)) (nf : Option GT) (o : SOut)
    (h : GenSwitch.loadSurroundings_go1_done g pos ctx parents nf = .ok o) :
    o.state.h.index = g.h.index ∧ o.state.mode = g.mode ∧ o.state.buffer = g.buffer ∧
    o.state.width = g.width ∧ o.state.height = g.height ∧
    o.state.h.elements.length = g.h.elements.length ∧ o.started = [] ∧
    ∀ i, i ≠ pos.toNat → o.state.h.elements[i]? = g.h.elements[i]? := by
  unfold GenSwitch.loadSurroundings_go1_done at h
  by_cases hb : 0 ≤ pos ∧ pos.toNat < g.h.elements.length
  · obtain ⟨h0, hl⟩ := hb
    simp only [index_ok _ _ h0 hl, bind, Except.bind, pure, Except.pure] at h
    cases hP : GenFeed.Prepend (g.h.elements[pos.toNat]).feed parents with
    | error e => simp [hP] at h
    | ok f =>
      -- the three writes through the page pointer are one `set` at `pos`
      simp only [hP, setPage_ok, h0, hl, List.length_set, List.set_set, Except.ok.injEq] at h
      subst h
      exact set_own g pos.toNat _ _
  · simp [index_bad _ _ hb, bind, Except.bind] at h

/-- The same for the downward loader. -/
theorem down_loader_own_page (g : SState) (pos ctx : Int) (cs : List (Option GT)) (nc : Option Container) (nb : Nat)
    (o : SOut) (h : GenSwitch.loadSurroundings_go2_done g pos ctx cs nc nb = .ok o) :
    o.state.h.index = g.h.index ∧ o.state.mode = g.mode ∧ o.state.buffer = g.buffer ∧
    o.state.width = g.width ∧ o.state.height = g.height ∧
    o.state.h.elements.length = g.h.elements.length ∧ o.started = [] ∧
    ∀ i, i ≠ pos.toNat → o.state.h.elements[i]? = g.h.elements[i]? := by
  unfold GenSwitch.loadSurroundings_go2_done at h
  by_cases hb : 0 ≤ pos ∧ pos.toNat < g.h.elements.length
  · obtain ⟨h0, hl⟩ := hb
    simp only [index_ok _ _ h0 hl, bind, Except.bind, pure, Except.pure] at h
    cases hP : GenFeed.Append (g.h.elements[pos.toNat]).feed cs with
    | error e => simp [hP] at h
    | ok f =>
      simp only [hP, setPage_ok, h0, hl, List.length_set, List.set_set, Except.ok.injEq] at h
      subst h
      exact set_own g pos.toNat _ _
  · simp [index_bad _ _ hb, bind, Except.bind] at h

/-- And what it does to its own page, against the model's world, is `Ui.upDone`: `context` more
    ancestors in front of the feed, the new frontier, the flag cleared — also when the page is no
    longer the current one (`pos` is any position). -/
theorem up_loader_its_page (w : World) (g : SState) (pos : Int) (ctx : Nat) (p : Ui.Page) (fl : Flags) (h0 : 0 ≤ pos)
    (hl : pos.toNat < g.h.elements.length) (hget : g.h.elements[pos.toNat] = encPageF p fl)
    (hfr : p.frontier.isSome = true) (hc : ctx < 2 ^ 64) :
    ∃ o, GenSwitch.loadSurroundings_go1 (E w) g pos (ctx : Int) = .ok o ∧
      o.state.h.elements[pos.toNat]? = some (encPageF (upDone w ctx p) { fl with up := false }) ∧
      o.frames = [o.state] := by
  refine ⟨_, go1_eq w g pos ctx p fl h0 hl hget hfr hc, ?_, rfl⟩
  simp [List.getElem?_set_self hl]

/-- One page holding one item, command mode with `q` typed, a 10 × 3 terminal. -/
def exState : SState :=
  { h := ⟨[⟨⟨fun i => if i = 0 then some (.failure none) else none, 1, -1, 0⟩, none, false, none, 0, false⟩], 0⟩,
    width := 10, height := 3, mode := GenSwitch.command, buffer := ['q'] }

/-- Non-vacuity: the terminal grows to 4 lines: one frame, of 4 lines (the numbers are the source's:
    mode 2). -/
example : ∃ f out, GenSwitch.SetWidthHeight exState 10 4 = .ok ⟨f, [f], []⟩ ∧ f.width = 10 ∧ f.height = 4 ∧
    GenView.view ⟨[], [], [], []⟩ 5 (viewState (fun _ => GenT16v.exItem) f) = .ok out ∧
    (Ansi.height out : Int) = 4 := by
  apply resize_frame_height ⟨[], [], [], []⟩ 5 (fun _ => GenT16v.exItem) exState 10 4 .command rfl (by decide)
    (by decide) (by decide) (by decide) (by decide)
  · exact fun _ => ⟨_, rfl, GenT16v.full_single _ GenT16v.exItem rfl rfl rfl rfl⟩
  · intro t ce b h
    have hv : viewParts ⟨[], [], [], []⟩ Gen16v.tangible .command
        (Gen16v.curOf (viewState (fun _ => GenT16v.exItem) exState)) 5 10 = .ok ([], "┃ s".toList, []) := by rfl
    rw [hv] at h
    cases h
    decide

end GenT07s
