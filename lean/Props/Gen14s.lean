import Model.Style
import Generated.GoStyle
import Generated.GoGlue
import Props.Gen14

/-
  The tie by translation for `style.superscript` (C12: the number behind a link; C14: styling):
  `extract/go2lean27.go` translates `superscript` — `strconv.Itoa`, then `strings.Map` with the
  ten-case switch, `panic` in the default — into `GenGlue.superscript`.  Below: on every `n ≥ 0`
  it is the model's `Style.superscript` (what `GenStyle.Link` / `LinkBlock` use through
  `Style.superscriptInt`), it never panics there, it is injective and never empty; on every
  negative number it panics (`-` is no digit) — the model's argument type is `Nat`, so that
  panic site is outside the model, as `Model/Style.lean` says.
-/

namespace Gen14s
open Style

theorem digit_cases (c : Char) (h : c.isDigit = true) :
    c = '0' ∨ c = '1' ∨ c = '2' ∨ c = '3' ∨ c = '4' ∨ c = '5' ∨ c = '6' ∨ c = '7' ∨ c = '8' ∨ c = '9' := by
  have h1 : 48 ≤ c.toNat ∧ c.toNat ≤ 57 := Char.isDigit_iff_toNat.mp h
  have h2 : c = Char.ofNat c.toNat := (Char.ofNat_toNat c).symm
  have h3 : c.toNat = 48 ∨ c.toNat = 49 ∨ c.toNat = 50 ∨ c.toNat = 51 ∨ c.toNat = 52 ∨ c.toNat = 53 ∨
      c.toNat = 54 ∨ c.toNat = 55 ∨ c.toNat = 56 ∨ c.toNat = 57 := by omega
  rcases h3 with h | h | h | h | h | h | h | h | h | h <;> rw [h] at h2 <;> simp [h2]

theorem map_digit (c : Char) (h : c.isDigit = true) :
    GenGlue.superscript_map c = .ok (superDigit c) := by
  rcases digit_cases c h with h | h | h | h | h | h | h | h | h | h <;> subst h <;> rfl

theorem map_nondigit (c : Char) (h : c.isDigit = false) :
    GenGlue.superscript_map c = .error (.explicit "can't superscript non-digit") := by
  have ne : ∀ d : Char, d.isDigit = true → c ≠ d := fun d hd e => by rw [e, hd] at h; cases h
  unfold GenGlue.superscript_map
  simp [ne '0' rfl, ne '1' rfl, ne '2' rfl, ne '3' rfl, ne '4' rfl, ne '5' rfl, ne '6' rfl,
    ne '7' rfl, ne '8' rfl, ne '9' rfl]
  rfl

theorem mapRunes_digits (s : Str) (h : ∀ c ∈ s, c.isDigit = true) :
    Go.Strings.mapRunes GenGlue.superscript_map s = .ok (s.map superDigit) := by
  unfold Go.Strings.mapRunes
  induction s with
  | nil => rfl
  | cons c s ih =>
    have hc := map_digit c (h c (by simp))
    have hs := ih (fun d hd => h d (by simp [hd]))
    simp only [List.mapM_cons, hc, hs, List.map_cons, bind, Except.bind, pure, Except.pure]

/-- **`superscript n` = the model's digits for every `n ≥ 0`**, and it does not panic there. -/
theorem superscript_eq (n : Nat) : GenGlue.superscript (n : Int) = .ok (Style.superscript n) := by
  unfold GenGlue.superscript Go.Strconv.itoaStr Style.superscript Style.itoa
  have h0 : ¬ ((n : Int) < 0) := by omega
  simp only [h0, if_false, Int.toNat_natCast]
  exact mapRunes_digits _ (fun c hc => Nat.isDigit_of_mem_toDigits (by decide) (by decide) hc)

/-- `superscript_eq` against `Style.superscriptInt`, which the translated `Link` uses. -/
theorem superscript_eq_int (v : Int) (h : 0 ≤ v) : GenGlue.superscript v = .ok (Style.superscriptInt v) := by
  obtain ⟨n, rfl⟩ := Int.eq_ofNat_of_zero_le h
  rw [superscript_eq, Gen14.superscriptInt_nat]

/-- A negative number: the `-` of `strconv.Itoa` reaches the default case — the code panics. -/
theorem superscript_negative (v : Int) (h : v < 0) :
    GenGlue.superscript v = .error (.explicit "can't superscript non-digit") := by
  unfold GenGlue.superscript Go.Strconv.itoaStr Go.Strings.mapRunes
  simp only [h, if_true, List.mapM_cons]
  rw [map_nondigit '-' (by decide)]
  rfl

def unsuper (d : Char) : Char :=
  match d with
  | '⁰' => '0' | '¹' => '1' | '²' => '2' | '³' => '3' | '⁴' => '4'
  | '⁵' => '5' | '⁶' => '6' | '⁷' => '7' | '⁸' => '8' | _ => '9'

theorem unsuper_superDigit (c : Char) (h : c.isDigit = true) : unsuper (superDigit c) = c := by
  rcases digit_cases c h with h | h | h | h | h | h | h | h | h | h <;> subst h <;> rfl

/-- The model's `superscript` is injective: the digits can be read back, and `Nat.toDigits` is
    injective. -/
theorem model_injective (m n : Nat) (h : Style.superscript m = Style.superscript n) : m = n := by
  have back : ∀ k, (Style.superscript k).map unsuper = Nat.toDigits 10 k := fun k => by
    rw [Style.superscript, Style.itoa, List.map_map]
    exact (List.map_congr_left fun c hc =>
      unsuper_superDigit c (Nat.isDigit_of_mem_toDigits (by decide) (by decide) hc)).trans
      (List.map_id _)
  have h1 : Nat.ofDigitChars 10 (Nat.toDigits 10 m) 0 = m := Nat.ofDigitChars_ten_toDigits
  have h2 : Nat.ofDigitChars 10 (Nat.toDigits 10 n) 0 = n := Nat.ofDigitChars_ten_toDigits
  rw [← h1, ← h2, ← back m, ← back n, h]

/-- The translated `superscript` is injective on the numbers it is given: **two different link
    numbers never print the same superscript**. -/
theorem superscript_injective (m n : Nat) (h : GenGlue.superscript (m : Int) = GenGlue.superscript (n : Int)) : m = n := by
  rw [superscript_eq, superscript_eq] at h
  exact model_injective m n (by injection h)

/-- **Never empty**: the translated code prints at least one rune for every `n ≥ 0`. -/
theorem superscript_nonempty (n : Nat) : ∃ c s, GenGlue.superscript (n : Int) = .ok (c :: s) := by
  rw [superscript_eq]
  have := @Nat.length_toDigits_pos 10 n
  unfold Style.superscript Style.itoa
  cases h : Nat.toDigits 10 n with
  | nil => rw [h] at this; exact absurd this (Nat.lt_irrefl _)
  | cons c s => exact ⟨superDigit c, s.map superDigit, rfl⟩

/-- As long as the number (`len(links)`-derived) is not negative, the translated `Link` is the
    translated `Underline`, the TRANSLATED `superscript` and the translated `Color`: the `superscript`
    the unit `style` takes from the model is the code's. -/
theorem link_uses_superscript (c : Colors) (t : Str) (v : Int) (h : 0 ≤ v) :
    GenStyle.Link c t v = (do
      let u ← GenStyle.Underline c t
      let s ← GenGlue.superscript v
      GenStyle.Color c (u ++ s)) := by
  rw [superscript_eq_int v h]
  simp only [GenStyle.Link, bind, Except.bind]

theorem linkBlock_uses_superscript (c : Colors) (t : Str) (v : Int) (h : 0 ≤ v) :
    GenStyle.LinkBlock c t v = (do
      let u ← GenStyle.Underline c t
      let s ← GenGlue.superscript v
      let l ← GenStyle.Color c (u ++ s)
      pure ((Go.str "‣ ") ++ (Ansi.indent l (Go.str "  ") false))) := by
  simp only [GenStyle.LinkBlock, link_uses_superscript c t v h, bind_assoc]

/-- With the equalities of `Props/Gen14.lean`: the translated `Link` with the translated
    `superscript` is the model's `link`. -/
theorem link_eq_model (c : Colors) (t : Str) (n : Nat) :
    (do let u ← GenStyle.Underline c t
        let s ← GenGlue.superscript (n : Int)
        GenStyle.Color c (u ++ s)) = .ok (Style.link c t n) := by
  rw [← link_uses_superscript c t n (by omega)]
  exact Gen14.link_eq c t n

end Gen14s
