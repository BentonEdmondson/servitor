import Model.Link
import Model.Present
import Generated.GoLink
import Generated.GoSelect
import Props.Gen14
import Props.Gen20

/-
  The tie by translation for C12 / C20 (the numbers next to links): `Generated/GoSelect.lean` is
  produced by `extract/go2lean11.go` on every run from pub/post.go (`SelectLink`, `Media`,
  `supplement`), pub/activity.go (`SelectLink`), pub/actor.go (`SelectLink`, `ProfilePic`,
  `Banner`) and pub/failure.go (`SelectLink`, reached through the `Tangible` interface).  The
  theorems below say that each translated method computes what the hand-written model computes
  (`Select.post` / `Link.postSelectOf` / `Link.postSelect`, `Link.postMedia`, `Link.actorSelect`,
  `Link.actorPfp`, `Link.actorBanner`, `Link.itemSelect`, `Present.PostV.supplement`) and, for the
  ones that index a slice or call `style.LinkBlock`, that they never panic (`… = .ok …`).

  The translated structs hold the fields the constructors filled; the model's functions of
  `Model/Link.lean` start from the document.  The theorems that mention the document (`o`) carry
  the hypothesis that the field holds what the model computes for it (for instance
  `p.attachments = (Link.links L o "attachment").map (List.map back)`); the theorems without `o`
  are about the struct alone.  `Present.PostV` carries error texts where the translation carries
  error classes: `fld E` gives every error of class `e` the text `E e`, for any `E`.
-/

namespace Gen12
open Obj Gen20 Str

/-- What Go's bounds test `len(xs) > i` and `xs[i]` have to do with `xs[i.toNat]?`. -/
theorem index_cases {α : Type} (xs : List α) (i : Int) (h0 : ¬ i < 0) :
    (∃ x, xs[i.toNat]? = some x ∧ Go.len xs > i ∧ Go.index xs i = .ok x) ∨
      (xs[i.toNat]? = none ∧ ¬ Go.len xs > i) := by
  cases hx : xs[i.toNat]? with
  | some x =>
    have := (List.getElem?_eq_some_iff.mp hx).1
    exact .inl ⟨x, rfl, by simp only [Go.len]; omega, by simp only [Go.index, h0, if_false, hx]⟩
  | none =>
    have := List.getElem?_eq_none_iff.mp hx
    exact .inr ⟨rfl, by simp only [Go.len]; omega⟩

/-- The attachments a post holds: the loaded list, or the empty slice next to an error. -/
def attsOf (p : GenSelect.Post) : List GenLink.Link := Go.pairVal p.attachments

/-- What `SelectLink` returns for each choice of the selection model. -/
def pick : Select.Choice GenLink.Link → Option (Str × Mime.MediaType)
  | .none => none
  | .body l => some (l, Mime.unknown)
  | .attachment a => GenLink.Select a

/-- The translated `Post.SelectLink` is the selection model `Select.post` (the one the C12 theorems
    are about) over the post's body links and attachments; it never panics. -/
theorem post_selectLink_choice (p : GenSelect.Post) (n : Int) :
    p.SelectLink n = .ok (pick (Select.post p.bodyLinks (attsOf p) n)) := by
  unfold GenSelect.Post.SelectLink Select.post attsOf
  by_cases h0 : n - 1 < 0
  · simp only [h0, decide_true, if_true]; rfl
  simp only [h0, decide_false, if_false, Bool.false_eq_true]
  rcases index_cases p.bodyLinks (n - 1) h0 with ⟨l, hl, hgt, hi⟩ | ⟨hl, hle⟩
  · simp only [hl, hgt, hi, decide_true, if_true]; rfl
  simp only [hl, hle, decide_false, if_false, Bool.false_eq_true]
  have hnn : ¬ n - 1 - Go.len p.bodyLinks < 0 := by simp only [Go.len] at hle ⊢; omega
  have hidx : (n - 1).toNat - p.bodyLinks.length = (n - 1 - Go.len p.bodyLinks).toNat := (Int.toNat_sub' _ _).symm
  rw [hidx]
  rcases index_cases (Go.pairVal p.attachments) _ hnn with ⟨a, ha, hgt, hi⟩ | ⟨ha, hle⟩
  · simp only [ha, hgt, hi, decide_true, if_true]; rfl
  · simp only [ha, hle, decide_false, if_false, Bool.false_eq_true]; rfl

/-- The translated `Post.SelectLink` is the model's `Link.postSelectOf` on the post's body links and
    attachments. -/
theorem post_selectLink_of (p : GenSelect.Post) (n : Int) :
    (p.SelectLink n).map (Option.map sel) = .ok (Link.postSelectOf p.bodyLinks ((attsOf p).map conv) n) := by
  rw [post_selectLink_choice]
  unfold Link.postSelectOf Select.post
  simp only [Except.map]
  by_cases h0 : n - 1 < 0
  · simp only [h0, if_true]; rfl
  · simp only [h0, if_false]
    cases hb : p.bodyLinks[(n - 1).toNat]? with
    | some l => rfl
    | none =>
      simp only [List.getElem?_map]
      cases ha : (attsOf p)[(n - 1).toNat - p.bodyLinks.length]? with
      | none => rfl
      | some a =>
        simp only [Option.map_some, pick]
        exact congrArg Except.ok (select_eq a)

/-- The translated `Post.SelectLink` is `Link.postSelect` on the document the attachments were loaded
    from. -/
theorem post_selectLink_eq {Time : Type} (L : Libs Time Link.Url) (o : List (Str × JVal)) (p : GenSelect.Post)
    (h : p.attachments = (Link.links L o "attachment".toList).map (List.map back)) (n : Int) :
    (p.SelectLink n).map (Option.map sel) = .ok (Link.postSelect L p.bodyLinks o n) := by
  rw [post_selectLink_of]
  have : (attsOf p).map conv = (match Link.links L o "attachment".toList with | .ok ls => ls | .error _ => []) := by
    unfold attsOf
    rw [h]
    cases Link.links L o "attachment".toList with
    | error e => rfl
    | ok ls =>
      show (ls.map back).map conv = ls
      rw [List.map_map]
      exact List.map_id ls
  rw [this]; rfl

theorem post_media_struct (p : GenSelect.Post) :
    p.Media.map sel = match p.media with
      | .error _ => none
      | .ok l => if Link.isMediaKind p.kind then Link.selectWithDefault (conv l) (Mime.unknownSubtype (Link.lower p.kind))
                 else Link.select (conv l) := by
  unfold GenSelect.Post.Media
  cases p.media with
  | error e => rfl
  | ok l =>
    show Option.map sel (if Link.isMediaKind p.kind = true then _ else _) = _
    by_cases hk : Link.isMediaKind p.kind = true
    · simp only [hk, if_true]; exact selectWithDefault_eq l _
    · simp only [hk, if_false, Bool.false_eq_true]; exact select_eq l

theorem post_media_eq {Time : Type} (L : Libs Time Link.Url) (o : List (Str × JVal)) (p : GenSelect.Post)
    (h : p.media = (Link.postMediaLink L p.kind o).map back) :
    p.Media.map sel = Link.postMedia L p.kind o := by
  rw [post_media_struct, h]
  unfold Link.postMedia
  cases Link.postMediaLink L p.kind o with
  | error e => rfl
  | ok l => rfl

/-- The translated `Actor.SelectLink` is the selection model `Select.actor` over the bio links; it never
    panics. -/
theorem actor_selectLink_choice (a : GenSelect.Actor) (n : Int) :
    a.SelectLink n = .ok (match Select.actor a.bioLinks n with
      | .body l => some (l, Mime.unknown)
      | _ => none) := by
  unfold GenSelect.Actor.SelectLink Select.actor
  by_cases h0 : n - 1 < 0
  · simp only [h0, decide_true, if_true]
  simp only [h0, decide_false, if_false, Bool.false_eq_true]
  rcases index_cases a.bioLinks (n - 1) h0 with ⟨l, hl, hgt, hi⟩ | ⟨hl, hle⟩
  · simp only [hl, Int.not_le.mpr hgt, hi, decide_false, if_false, Bool.false_eq_true]
  · simp only [hl, Int.not_lt.mp hle, decide_true, if_true]

theorem actor_selectLink_eq (a : GenSelect.Actor) (n : Int) :
    (a.SelectLink n).map (Option.map sel) = .ok (Link.actorSelect a.bioLinks n) := by
  rw [actor_selectLink_choice, Link.actorSelect]
  cases Select.actor a.bioLinks n <;> rfl

/-- `getBestLink(o, key, "image")` as the model computes it. -/
def bestImage {Time : Type} (L : Libs Time Link.Url) (o : List (Str × JVal)) (key : Str) : R Link.T :=
  match Link.links L o key with
  | .error e => .error e
  | .ok ls => Link.selectBest ls "image".toList

theorem image_eq {Time : Type} (L : Libs Time Link.Url) (o : List (Str × JVal)) (key : Str) (r : R GenLink.Link)
    (h : r = (bestImage L o key).map back) :
    (match r with
      | .error _ => none
      | .ok l => GenLink.SelectWithDefaultMediaType l (Mime.unknownSubtype (Go.str "image"))).map sel =
      Link.actorImage L o key := by
  subst h
  unfold bestImage Link.actorImage
  cases Link.links L o key with
  | error e => rfl
  | ok ls =>
    dsimp only
    cases Link.selectBest ls "image".toList with
    | error e => rfl
    | ok l => exact selectWithDefault_eq (back l) _

theorem actor_profilePic_eq {Time : Type} (L : Libs Time Link.Url) (o : List (Str × JVal)) (a : GenSelect.Actor)
    (h : a.pfp = (bestImage L o "icon".toList).map back) : a.ProfilePic.map sel = Link.actorPfp L o :=
  image_eq L o _ a.pfp h

theorem actor_banner_eq {Time : Type} (L : Libs Time Link.Url) (o : List (Str × JVal)) (a : GenSelect.Actor)
    (h : a.banner = (bestImage L o "image".toList).map back) : a.Banner.map sel = Link.actorBanner L o :=
  image_eq L o _ a.banner h

mutual
  /-- What the selection model needs to know of a translated item. -/
  def itemOf : GenSelect.Tangible → Link.Item
    | .activity a => .activity (targetOf a)
    | .actor a => .actor a.bioLinks
    | .failure _ => .failure
    | .post p => .post p.bodyLinks ((attsOf p).map conv)
  def targetOf : GenSelect.Activity → Link.Item
    | .mk t => itemOf t
end

mutual
  /-- `x.SelectLink(n)` for any item `x`: the model's `Link.itemSelect`; it never panics. -/
  theorem tangible_selectLink_eq : ∀ (t : GenSelect.Tangible) (n : Int),
      (GenSelect.Tangible.SelectLink t n).map (Option.map sel) = .ok (Link.itemSelect (itemOf t) n)
    | .activity a, n => by
      rw [GenSelect.Tangible.SelectLink, itemOf, Link.itemSelect]; exact activity_selectLink_eq a n
    | .actor a, n => by
      rw [GenSelect.Tangible.SelectLink, itemOf, Link.itemSelect]; exact actor_selectLink_eq a n
    | .failure f, n => by
      rw [GenSelect.Tangible.SelectLink, itemOf, Link.itemSelect]; rfl
    | .post p, n => by
      rw [GenSelect.Tangible.SelectLink, itemOf, Link.itemSelect]; exact post_selectLink_of p n
  /-- `Activity.SelectLink(n)` is its target's answer to the same `n`. -/
  theorem activity_selectLink_eq : ∀ (a : GenSelect.Activity) (n : Int),
      (GenSelect.Activity.SelectLink a n).map (Option.map sel) = .ok (Link.activitySelect (targetOf a) n)
    | .mk t, n => by
      rw [GenSelect.Activity.SelectLink, targetOf, Link.activitySelect]; exact tangible_selectLink_eq t n
end

/-- A field pair of the translation as a field of the presentation model: an error of class `e`
    has the text `E e`. -/
def fld {α : Type} (E : Err → Str) : R α → Present.Fld α
  | .ok v => .ok v
  | .error .absent => .absent (E .absent)
  | .error .wrong => .err (E .wrong)

def linkV (E : Err → Str) (l : GenLink.Link) : Present.LinkV := { alt := fld E l.alt, uri := fld E l.uri }

def attsV (E : Err → Str) : R (List GenLink.Link) → Present.Fld (List Present.LinkV)
  | .ok ls => .ok (ls.map (linkV E))
  | .error .absent => .absent (E .absent)
  | .error .wrong => .err (E .wrong)

theorem altText_eq (E : Err → Str) (l : GenLink.Link) :
    (linkV E l).altText = match GenLink.Alt l with
      | .ok a => .ok a
      | .error e => .error (E e) := by
  obtain ⟨k, m, u, a, h, w⟩ := l
  rcases a with (_ | _) | a <;> rcases u with (_ | _) | u <;> rfl

/-- What the loop has appended so far, then the lines still to come. -/
def acc : Str → List Str → Str
  | out, [] => out
  | out, l :: ls => acc ((if out ≠ [] then out ++ ['\n'] else out) ++ l) ls

theorem acc_nonempty (ls : List Str) : ∀ (out : Str), out ≠ [] → acc out ls = joinNL (out :: ls) := by
  induction ls with
  | nil => intro out _; rfl
  | cons l ls ih =>
    intro out ho
    rw [acc, if_pos ho, ih _ (by simp)]
    cases ls <;> simp [joinNL]

theorem acc_nil (ls : List Str) (hl : ∀ l ∈ ls, l ≠ []) : acc [] ls = joinNL ls := by
  cases ls with
  | nil => rfl
  | cons l ls => exact acc_nonempty ls l (hl l List.mem_cons_self)

theorem linkBlock_ne (c : Colors) (t : Str) (n : Nat) : Style.linkBlock c t n ≠ [] := by
  simp [Style.linkBlock]

theorem supplementLines_ne (c : Colors) (w : Int) (base : Nat) (as : List Present.LinkV) :
    ∀ (i : Nat), ∀ l ∈ Present.supplementLines c w base as i, l ≠ [] := by
  induction as with
  | nil => intro i l hl; simp [Present.supplementLines] at hl
  | cons a as ih =>
    intro i l hl
    simp only [Present.supplementLines, List.mem_cons] at hl
    rcases hl with h | h
    · subst h
      cases a.altText <;> exact linkBlock_ne _ _ _
    · exact ih _ _ h

/-- The loop of `supplement`, from any state: it appends the model's lines, never panics. -/
theorem supplement_loop_eq (c : Colors) (E : Err → Str) (p : GenSelect.Post) (w : Int) (as : List GenLink.Link) :
    ∀ (i0 : Nat) (out : Str),
      GenSelect.Post.supplement_loop c E p w out ((as.zipIdx i0).map fun q => ((q.2 : Int), q.1)) =
        .ok (some (acc out (Present.supplementLines c w p.bodyLinks.length (as.map (linkV E)) i0))) := by
  induction as with
  | nil => intro i0 out; rfl
  | cons a as ih =>
    intro i0 out
    have hnum : ((Go.len p.bodyLinks + (i0 : Int)) + 1) = ((p.bodyLinks.length + i0 + 1 : Nat) : Int) := rfl
    simp only [List.zipIdx_cons, List.map_cons, GenSelect.Post.supplement_loop, hnum, Gen14.linkBlock_eq,
      Present.supplementLines, acc, altText_eq, Gen16.str_empty, Gen16.str_nl]
    by_cases ho : out = [] <;> cases GenLink.Alt a <;>
      simp only [ho, ne_eq, not_true_eq_false, not_false_eq_true, decide_true, decide_false, if_true, if_false,
        Bool.false_eq_true] <;>
      exact ih (i0 + 1) _

theorem supplement_cons (c : Colors) (E : Err → Str) (p : GenSelect.Post) (w : Int) (a : GenLink.Link)
    (as : List GenLink.Link) (h : p.attachments = .ok (a :: as)) :
    p.supplement c E w =
      .ok (some (joinNL (Present.supplementLines c w p.bodyLinks.length ((a :: as).map (linkV E)) 0))) := by
  have hlen : ¬ (Go.len (a :: as) = 0) := by simp only [Go.len, List.length_cons]; omega
  have he : Go.enumerate (a :: as) = ((a :: as).zipIdx 0).map fun q => ((q.2 : Int), q.1) := rfl
  simp only [GenSelect.Post.supplement, h, Go.errIs, hlen, decide_false, if_false, Bool.false_eq_true]
  rw [he, supplement_loop_eq, Gen16.str_empty, acc_nil _ (supplementLines_ne c w _ _ 0)]

/-- The translated `Post.supplement` is the presentation model's `PostV.supplement`, for every
    presentation view of the post that has the same body links and attachments; it never panics. -/
theorem post_supplement_eq (c : Colors) (E : Err → Str) (p : GenSelect.Post) (w : Int) (v : Present.PostV)
    (hb : v.bodyLinks = p.bodyLinks) (ha : v.attachments = attsV E p.attachments) :
    p.supplement c E w = .ok (v.supplement c w) := by
  rw [Present.PostV.supplement, ha, hb]
  rcases hp : p.attachments with e | (_ | ⟨a, as⟩)
  · rw [GenSelect.Post.supplement, hp]; cases e <;> rfl
  · rw [GenSelect.Post.supplement, hp]; rfl
  · rw [supplement_cons c E p w a as hp]; rfl

end Gen12
