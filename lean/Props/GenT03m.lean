import Model.Mime
import Generated.GoMime
import Props.C17
import Props.Gen03m

/-
  What C03, C17 and C20 need of mime/mime.go, stated directly about the code as translated from
  the Go source (`Generated/GoMime.lean`).  The model appears only where the regular expression
  has to be named (`Gen03m.modelFind`).
-/

namespace GenT03m
open Gen03m

/-- `Matches` never panics and answers whether the essence is, character for character, one of
    the listed strings. -/
theorem matches_decides (m : GenMime.MediaType) (ts : List Str) :
    GenMime.Matches m ts = .ok (decide (m.Essence ∈ ts)) := by
  rw [matches_eq]
  simp [Mime.MediaType.matchesAny, toModel]

theorem matches_iff (m : GenMime.MediaType) (ts : List Str) :
    GenMime.Matches m ts = .ok true ↔ m.Essence ∈ ts := by
  rw [matches_decides]
  simp

/-- Only the essence is compared: supertype and subtype play no part. -/
theorem matches_essence_only (m m' : GenMime.MediaType) (ts : List Str) (h : m.Essence = m'.Essence) :
    GenMime.Matches m ts = GenMime.Matches m' ts := by
  rw [matches_decides, matches_decides, h]

/-- No wildcard: a media type whose essence is not listed matches nothing, whatever its subtype
    or supertype (`*` included). -/
theorem matches_unlisted (m : GenMime.MediaType) (ts : List Str) (h : m.Essence ∉ ts) :
    GenMime.Matches m ts = .ok false := by
  rw [matches_decides]
  simp [h]

/-- `*/*` (what `Unknown` builds) matches a list only if the string `*/*` itself is listed. -/
theorem unknown_matches_iff (ts : List Str) :
    (∃ u, GenMime.Unknown = .ok u ∧ GenMime.Matches u ts = .ok true) ↔ "*/*".toList ∈ ts := by
  simp only [unknown_eq, Except.ok.injEq, exists_eq_left', matches_iff]
  rfl

/-- `sup/*` (what `UnknownSubtype sup` builds) matches a list only if that very string is listed:
    `application/*` does not match `application/json`. -/
theorem unknownSubtype_matches_iff (sup : Str) (ts : List Str) :
    (∃ u, GenMime.UnknownSubtype sup = .ok u ∧ GenMime.Matches u ts = .ok true) ↔
      sup ++ "/*".toList ∈ ts := by
  simp only [unknownSubtype_eq, Except.ok.injEq, exists_eq_left', matches_iff]
  rfl

/-- The ways a lenient comparison would differ, on the list the client tolerates for
    ActivityPub documents: no wildcard subtype, no wildcard at all, no case folding, no prefix. -/
theorem matches_is_strict :
    let ts := ["application/activity+json".toList, "application/ld+json".toList, "application/json".toList]
    GenMime.Matches ⟨"application/*".toList, "application".toList, "*".toList⟩ ts = .ok false ∧
    GenMime.Matches ⟨"*/*".toList, "*".toList, "*".toList⟩ ts = .ok false ∧
    GenMime.Matches ⟨"Application/JSON".toList, "Application".toList, "JSON".toList⟩ ts = .ok false ∧
    GenMime.Matches ⟨"application/jsonx".toList, "application".toList, "jsonx".toList⟩ ts = .ok false ∧
    GenMime.Matches ⟨"application/js".toList, "application".toList, "js".toList⟩ ts = .ok false ∧
    GenMime.Matches ⟨"application/json".toList, "application".toList, "json".toList⟩ ts = .ok true := by
  -- membership in the list is a disjunction of equalities of literals, decided as strings
  -- (`String.reduceEq`): evaluating `String.toList` on a literal is slow to check
  simp only [matches_decides, List.mem_cons, List.not_mem_nil, or_false, String.toList_inj,
    String.reduceEq, or_self, decide_false, decide_true, or_true, and_self]

/-- For ANY submatch function whose group 1 is group 2, a slash, group 3 (the shape of the
    parentheses in the expression), a successful `Parse` returns an essence that is
    `supertype ++ "/" ++ subtype`. -/
theorem parse_essence_of_nested (find : Str → List Str) (s : Str) (m : GenMime.MediaType)
    (hnest : ∀ g0 g1 g2 g3, find s = [g0, g1, g2, g3] → g1 = g2 ++ '/' :: g3)
    (h : GenMime.Parse find s = .ok (.ok m)) :
    m.Essence = m.Supertype ++ '/' :: m.Subtype := by
  rcases parse_cases find s with ⟨g0, g1, g2, g3, hf, hp⟩ | hp <;> rw [hp] at h <;> cases h
  exact hnest g0 g1 g2 g3 hf

/-- With the modelled regular expression: `Parse` never returns an essence that is not
    `supertype ++ "/" ++ subtype`; both parts are non-empty runs of token characters, the input
    starts with the essence and what follows does not start with a token character. -/
theorem parse_spec (s : Str) (m : GenMime.MediaType) (h : GenMime.Parse modelFind s = .ok (.ok m)) :
    m.Essence = m.Supertype ++ '/' :: m.Subtype ∧ m.Supertype ≠ [] ∧ m.Subtype ≠ [] ∧
    (∀ c ∈ m.Supertype, Mime.isTok c = true) ∧ (∀ c ∈ m.Subtype, Mime.isTok c = true) ∧
    ∃ rest, s = m.Essence ++ rest ∧ (∀ c, rest.head? = some c → Mime.isTok c = false) := by
  rw [parse_eq] at h
  cases hp : Mime.parse s with
  | none => rw [hp] at h; cases h
  | some p =>
    rw [hp] at h
    cases h
    exact C17.mime_parse_spec s p hp

/-- `Parse` (with the modelled expression) either succeeds or returns the error naming the input;
    it never panics. -/
theorem parse_total (s : Str) :
    (∃ m, GenMime.Parse modelFind s = .ok (.ok m)) ∨
    GenMime.Parse modelFind s = .ok (.error (notValid s)) := by
  rw [parse_eq]
  cases Mime.parse s with
  | none => exact .inr rfl
  | some p => exact .inl ⟨_, rfl⟩

/-- Parameters, upper case and a structured suffix, as the translated code treats them. -/
theorem parse_examples :
    GenMime.Parse modelFind "application/activity+json; charset=utf-8".toList =
      .ok (.ok ⟨"application/activity+json".toList, "application".toList, "activity+json".toList⟩) ∧
    GenMime.Parse modelFind "Text/HTML".toList = .ok (.ok ⟨"Text/HTML".toList, "Text".toList, "HTML".toList⟩) ∧
    GenMime.Parse modelFind "text/".toList = .ok (.error (notValid "text/".toList)) ∧
    GenMime.Parse modelFind " text/html".toList = .ok (.error (notValid " text/html".toList)) := by
  repeat rewrite [String.toList_ofList]
  simp only [parse_eq]
  exact ⟨rfl, rfl, rfl, rfl⟩

theorem update_rejects_keeps (m : GenMime.MediaType) (s : Str) (h : Mime.parse s = none) :
    GenMime.Update modelFind m s = .ok (m, some (notValid s)) := by
  rw [update_eq, h]

theorem update_accepts_replaces (m : GenMime.MediaType) (s : Str) (p : Mime.MediaType)
    (h : Mime.parse s = some p) :
    GenMime.Update modelFind m s = .ok (ofModel p, none) := by
  rw [update_eq, h]

end GenT03m
