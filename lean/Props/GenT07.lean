import Model
import Generated.GoUpdate
import Props.C07
import Props.Gen07

/-
  C07 on the code as translated from the Go source (`Generated/GoUpdate.lean`): what each key does,
  carried across `Gen07.update_eq`.  The translated `Update` runs on the encoding `enc s` of a
  model state with the actions interpreted by the model (`Gen07.env`); the conclusions speak of
  the translated function's result.
-/

namespace GenT07
open Ui Pub Gen07

/-- The hypothesis of `update_eq` outside selection mode. -/
theorem notSel {s : State} {m : Mode} (hm : s.mode = m) (h : m ≠ .selection := by decide) :
    s.mode = .selection → s.buffer ≠ [] ∧ ∀ ch ∈ s.buffer, ch.isDigit = true :=
  fun hs => absurd (hm.symm.trans hs) h

/-- How a fact of `C07` about a run of the model crosses `update_eq`: a run of the model's `update` that
    ends is a run of the translated `Update` that ends in the encoding of its result. -/
theorem update_ok {w : World} {s s' : State} {k : Nat}
    (hsel : s.mode = .selection → s.buffer ≠ [] ∧ ∀ ch ∈ s.buffer, ch.isDigit = true)
    (hu : update w s k = .ok s') :
    GenUpdate.Update (env w s.context s.feeds) (enc s) k = .ok (enc s') := by
  rw [update_eq w s k hsel, hu]
  rfl

/-- How a hypothesis about the translated `Update` crosses `update_eq`: a run of it that ends is a run of
    the model's `update`, and ends in the encoding of that run's result. -/
theorem ok_of_update {w : World} {s : State} {k : Nat} {g' : GState}
    (hsel : s.mode = .selection → s.buffer ≠ [] ∧ ∀ ch ∈ s.buffer, ch.isDigit = true)
    (hs : GenUpdate.Update (env w s.context s.feeds) (enc s) k = .ok g') :
    ∃ s', update w s k = .ok s' ∧ g' = enc s' := by
  rw [update_eq w s k hsel] at hs
  cases hu : update w s k <;> rw [hu] at hs <;> cases hs
  exact ⟨_, rfl, rfl⟩

/-- A key while the interface is loading is ignored: the translated `Update` returns the state
    it was given. -/
theorem loading_ignores (w : World) (s : State) (k : Nat) (hm : s.mode = .loading) :
    GenUpdate.Update (env w s.context s.feeds) (enc s) k = .ok (enc s) :=
  update_ok (notSel hm) (by unfold update; exact if_pos hm)

/-- Escape cancels whatever was being typed, in every mode but loading. -/
theorem esc_cancels (w : World) (s : State) (hm : s.mode ≠ .loading) (hsel : Inv s) :
    GenUpdate.Update (env w s.context s.feeds) (enc s) 27
      = .ok (enc { s with buffer := [], mode := .normal }) :=
  update_ok hsel.2.2 (C07.esc_cancels w s hm)

/-- A digit in normal mode starts a selection holding that digit. -/
theorem digit_selects (w : World) (s : State) (d : Nat) (hm : s.mode = .normal)
    (hd : '0'.toNat ≤ d ∧ d ≤ '9'.toNat) :
    GenUpdate.Update (env w s.context s.feeds) (enc s) d
      = .ok (enc { s with buffer := [Char.ofNat d], mode := .selection }) :=
  update_ok (notSel hm) (C07.digit_selects w s d hm hd)

/-- A number that opens nothing (0, too large, out of range, empty page), followed by Enter,
    returns to normal mode and leaves the history alone; in particular the over-long number whose
    `Atoi` fails does (`C07.overlong_number`). -/
theorem bad_number_cancels (w : World) (s : State) (g' : GState) (hi : Inv s) (hm : s.mode = .selection)
    (hnone : ∀ x n, currentItem s = .ok (some x) → atoi s.buffer = some n → selectLink x n = none)
    (hs : GenUpdate.Update (env w s.context s.feeds) (enc s) 13 = .ok g') :
    g' = enc { s with buffer := [], mode := .normal } := by
  obtain ⟨s', hu, rfl⟩ := ok_of_update hi.2.2 hs
  rw [C07.bad_number_cancels w s s' hm hnone hu]

/-- A number followed by Enter hands exactly the link `SelectLink` names to the media hook:
    `opening` mode, that link in the buffer. -/
theorem enter_opens_externally (w : World) (s : State) (x : T) (n : Int) (l : Str) (hi : Inv s)
    (hm : s.mode = .selection) (hc : currentItem s = .ok (some x))
    (hn : atoi s.buffer = some n) (hl : selectLink x n = some l) :
    GenUpdate.Update (env w s.context s.feeds) (enc s) 13 = .ok (enc (openExternally s l)) :=
  update_ok hi.2.2 (C07.enter_opens_externally w s x n l hm hc hn hl)

/-- `j` moves the cursor one item down within the bounds of the feed and changes neither the
    page, nor the history, nor the mode. -/
theorem j_moves_down (w : World) (s : State) (g' : GState) (page : Ui.Page) (hm : s.mode = .normal)
    (hp : History.current s.hist = .ok page)
    (hs : GenUpdate.Update (env w s.context s.feeds) (enc s) 'j'.toNat = .ok g') :
    ∃ s' page', g' = enc s' ∧ History.current s'.hist = .ok page' ∧
      page'.feed.index = (if Feed.contains page.feed 1 then page.feed.index + 1 else page.feed.index) ∧
      s'.hist.index = s.hist.index ∧ s'.hist.elements.length = s.hist.elements.length ∧ s'.mode = .normal := by
  obtain ⟨s', hu, rfl⟩ := ok_of_update (notSel hm) hs
  obtain ⟨page', h⟩ := C07.j_moves_down w s s' page hm hp hu
  exact ⟨s', page', rfl, h⟩

/-- `h` / `l` walk the browser history and saturate at its ends. -/
theorem h_l_walk (w : World) (s : State) (hm : s.mode = .normal) :
    GenUpdate.Update (env w s.context s.feeds) (enc s) 'h'.toNat
        = .ok (enc { s with hist := History.back s.hist }) ∧
    GenUpdate.Update (env w s.context s.feeds) (enc s) 'l'.toNat
        = .ok (enc { s with hist := History.forward s.hist }) :=
  ⟨update_ok (notSel hm) (C07.h_l_walk w s hm).1, update_ok (notSel hm) (C07.h_l_walk w s hm).2⟩

/-- `o` on a post (or an activity about one) that has media starts the hook with the media link;
    without media nothing changes. -/
theorem o_opens_media (w : World) (s : State) (cur : Option T) (hm : s.mode = .normal)
    (hc : currentItem s = .ok cur) :
    GenUpdate.Update (env w s.context s.feeds) (enc s) 'o'.toNat =
      .ok (enc (match mediaOf w cur with
                | some x => openExternally s x.link
                | none => s)) :=
  update_ok (notSel hm) (C07.o_opens_media w s cur hm hc)

/-- `p` and `b` open the highlighted actor's picture / banner, and only an actor's. -/
theorem p_b_open_pictures (w : World) (s : State) (cur : Option T) (hm : s.mode = .normal)
    (hc : currentItem s = .ok cur) (k : Nat) (hk : k = 'p'.toNat ∨ k = 'b'.toNat) :
    GenUpdate.Update (env w s.context s.feeds) (enc s) k =
      .ok (enc (match pictureOf w (k = 'b'.toNat) cur with
                | some x => openExternally s x.link
                | none => s)) :=
  update_ok (notSel hm) (C07.p_b_open_pictures w s cur hm hc k hk)

/-- No key crashes the translated `Update` on the encoding of a state that satisfies the model's
    invariant, and the result is again such an encoding. -/
theorem update_no_panic (w : World) (s : State) (k : Nat) (h : Inv s) :
    ∃ s', GenUpdate.Update (env w s.context s.feeds) (enc s) k = .ok (enc s') ∧ Inv s' := by
  obtain ⟨s', e, i⟩ := C07.update_no_panic w s k h
  exact ⟨s', update_ok h.2.2 e, i⟩

/-- Not vacuous: a state in normal mode, the key `7`: the translated `Update` ends in selection
    mode with `7` in the buffer (the numbers are the source's: mode 1 → mode 3). -/
example (w : World) :
    GenUpdate.Update (env w 0 []) (enc { mode := .normal, context := 0 }) 55
      = .ok ⟨encH {}, GenUpdate.selection, ['7']⟩ :=
  digit_selects w { mode := .normal, context := 0 } 55 rfl (by decide)

end GenT07
