import Model
import Proofs.C12

/-
  C12 — the number shown next to a link opens exactly that link.
  The renderers carry a ghost list `(number printed, own target)` written at exactly the places
  where the number is handed to `style.Link` / `style.LinkBlock` (Model/Hypertext.lean,
  Model/Gemtext.lean); that the ghost list is `ideal` of the link list is the invariant `C12P.Good`
  of Proofs/C12.lean.
-/

namespace C12
open Str

/-- The labelling a link list ought to have: target `i` (0-based) is printed as `i + 1`. -/
def ideal (links : List Str) : List (Nat × Str) := links.zipIdx.map fun (l, i) => (i + 1, l)

/-- The lemmas of Proofs/C12.lean are stated about their own `C12P.ideal`. -/
theorem ideal_eq : @ideal = @C12P.ideal := rfl

/-- HTML / Markdown: for every forest and width, each numbered element prints the index of
    its own target — nesting (a linked image, links in links) included — and the numbers are
    exactly 1..N in order of appearance. -/
theorem html_labels (c : Colors) (nodes : List Dom.Node) (w : Int) :
    (Hypertext.renderFull c nodes w).2.ghost = ideal (Hypertext.renderFull c nodes w).2.links := by
  rw [ideal_eq]; exact (C12P.html_pair c nodes w w).2

/-- The link list itself does not depend on the width (numbers stay valid across resizes). -/
theorem html_links_width_independent (c : Colors) (nodes : List Dom.Node) (w w' : Int) :
    (Hypertext.renderFull c nodes w).2.links = (Hypertext.renderFull c nodes w').2.links :=
  congrArg Hypertext.LinkSt.links (C12P.html_pair c nodes w w').1

theorem gemtext_labels (c : Colors) (lines : List Str) (w : Int) :
    (Gemtext.renderFull c lines w).2.ghost = ideal (Gemtext.renderFull c lines w).2.links := by
  rw [ideal_eq]; exact (C12P.gem_pair c lines w w).2.2.2

theorem gemtext_links_width_independent (c : Colors) (lines : List Str) (w w' : Int) :
    (Gemtext.renderFull c lines w).2.links = (Gemtext.renderFull c lines w').2.links :=
  (C12P.gem_pair c lines w w').1

theorem plaintext_labels (c : Colors) (text : Str) (w : Int) :
    (Plaintext.renderFull c text w).2.2 = ideal (Plaintext.renderFull c text w).2.1 := by
  simp only [ideal_eq, Plaintext.renderFull]
  exact C12P.plain_replace c _ _ _ _ rfl

/-- Consequence: whatever number `k` an element printed, entry `k` of the link list is that
    element's own target. -/
theorem label_opens_own_target (links : List Str) (k : Nat) (t : Str) (h : (k, t) ∈ ideal links) :
    1 ≤ k ∧ links[k - 1]? = some t := by
  simp only [ideal, List.mem_map, Prod.mk.injEq, Prod.exists] at h
  obtain ⟨l, i, hm, rfl, rfl⟩ := h
  rw [List.mem_zipIdx_iff_getElem?] at hm
  simpa using hm

/-- Typing `k` opens exactly link `k`: body links first, then attachments, and nothing for
    any other integer. -/
theorem select_exact {α : Type} (body : List Str) (atts : List α) (k : Int) :
    Select.post body atts k =
      if h : 1 ≤ k ∧ k ≤ body.length then .body (body[(k - 1).toNat]'(by omega))
      else if h : body.length < k ∧ k ≤ body.length + atts.length then
        .attachment (atts[(k - 1).toNat - body.length]'(by omega))
      else .none :=
  C12P.select_exact body atts k

/-- The number `supplement` prints for attachment `i` selects attachment `i`. -/
theorem attachment_number_selects {α : Type} (body : List Str) (atts : List α) (i : Nat) (a : α)
    (h : atts[i]? = some a) :
    Select.post body atts (Select.attachmentNumber body i) = .attachment a :=
  C12P.attachment_number_selects body atts i a h

/-- Body link `i` (0-based, printed as `i+1` by the renderers) is selected by `i+1`. -/
theorem body_number_selects {α : Type} (body : List Str) (atts : List α) (i : Nat) (l : Str)
    (h : body[i]? = some l) : Select.post body atts ((i : Int) + 1) = .body l :=
  C12P.body_number_selects body atts i l h

theorem actor_select_exact (bio : List Str) (k : Int) :
    Select.actor bio k = if h : 1 ≤ k ∧ k ≤ bio.length then .body (bio[(k - 1).toNat]'(by omega)) else .none := by
  rw [C12P.actor_eq_post, select_exact]
  split
  · rfl
  · exact dif_neg (by simp only [List.length_nil]; omega)

/-- Numbers outside 1..N open nothing; in particular 0 and negative numbers. -/
theorem select_out_of_range {α : Type} (body : List Str) (atts : List α) (k : Int)
    (h : k < 1 ∨ k > body.length + atts.length) : Select.post body atts k = .none :=
  C12P.select_out_of_range body atts k h

/-- Non-vacuity: a linked image `<a><img></a>`.  The anchor is 1 and the image 2; numbering the
    anchor only after its children shows 2 on both and 1 nowhere. -/
example : (Hypertext.renderFull ⟨[], [], [], []⟩
    [.elem "a".toList [("href".toList, "A".toList)] [.elem "img".toList [("src".toList, "I".toList)] []]] 80).2.ghost
    = [(1, "A".toList), (2, "I".toList)] := by
  have hA : Ansi.scrub ['A'] = ['A'] := by decide
  have hI : Ansi.scrub ['I'] = ['I'] := by decide
  simp [Hypertext.renderFull, Hypertext.renderKids, Hypertext.renderNode, Hypertext.renderChildren,
    Hypertext.getAttribute, Hypertext.LinkSt.push, Hypertext.tagIn, Hypertext.headerLevel, hA, hI]

end C12
