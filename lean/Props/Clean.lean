import Model
import Proofs.Clean
import Proofs.C15
import Props.Cells

/-
  Clean styled text is closed under everything the style layer, the layout functions and the
  four renderers do — the common core of C01 (nothing but printable characters, newlines and
  servitor's own SGR sequences reaches the terminal) and C14 (styling never leaks).
-/

namespace CleanProps
open Str Ansi Cells

/-- Clean text is terminal-safe: printable characters, newlines and complete SGR sequences only. -/
theorem clean_safe (s : Str) (h : Clean s) : Safe.safe s = true := by
  obtain ⟨cs, hcs, rfl⟩ := h
  exact safeF_render cs hcs _ (Nat.le_succ _)

theorem clean_canon (s : Str) (h : Clean s) : Canon s := by
  obtain ⟨cs, hcs, rfl⟩ := h
  exact ⟨cs, clean_ok_all hcs, rfl⟩

/-- Clean text leaves no attribute active across a line break or at the end. -/
theorem clean_neutral (s : Str) (h : Clean s) : neutralAtBreaks s = true :=
  CellsProps.canon_neutral s (clean_canon s h)

theorem scrub_noCtl (s : Str) : Safe.noCtl (Ansi.scrub s) = true :=
  Cells.scrub_noCtl s

/-- Text without control characters (other than newline) is clean as it stands. -/
theorem clean_plain (s : Str) (h : Safe.noCtl s = true) : Clean s :=
  Cells.clean_plain s h

theorem clean_nil : Clean [] :=
  Cells.clean_nil

theorem clean_append (s t : Str) (hs : Clean s) (ht : Clean t) : Clean (s ++ t) :=
  Cells.clean_append s t hs ht

theorem clean_trim (p : Char → Bool) (hp : ∀ c, p c = true → c = ' ' ∨ c = '\n') (s : Str) (h : Clean s) :
    Clean (trim p s) :=
  Cells.clean_trim p hp s h

theorem clean_trimSuffix_nl (s : Str) (h : Clean s) : Clean (trimSuffix ['\n'] s) :=
  Cells.clean_trimSuffix_nl s h

theorem clean_splitNL (s : Str) (h : Clean s) : ∀ l ∈ splitNL s, Clean l :=
  Cells.clean_splitNL s h

theorem clean_joinNL (ls : List Str) (h : ∀ l ∈ ls, Clean l) : Clean (joinNL ls) :=
  Cells.clean_joinNL ls h

theorem clean_apply (s a : Str) (h : Clean s) (ha : sgrOk a = true) : Clean (apply s a) :=
  Cells.clean_apply s a h ha

theorem clean_indent (s pfx : Str) (first : Bool) (h : Clean s) (hp : Safe.noCtl pfx = true) :
    Clean (indent s pfx first) :=
  Cells.clean_indent s pfx first h hp

theorem clean_pad (s : Str) (w : Int) (h : Clean s) : Clean (pad s w) :=
  Cells.clean_pad s w h

theorem clean_wrap (s : Str) (w : Int) (h : Clean s) : Clean (wrap s w) :=
  Cells.clean_wrap s w h

theorem clean_dumbWrap (s : Str) (w : Int) (h : Clean s) : Clean (dumbWrap s w) :=
  Cells.clean_dumbWrap s w h

theorem clean_snip (s : Str) (w h : Int) (e out : Str) (hs : Clean s) (he : Clean e)
    (ho : snip s w h e = .ok out) : Clean out :=
  Cells.clean_snip s w h e out hs he ho

theorem clean_centerVertically (p c s : Str) (h : Nat) (hp : Clean p) (hc : Clean c) (hs : Clean s) :
    Clean (centerVertically p c s h) := by
  rw [C16.centerVertically_eq]
  apply clean_joinNL
  intro l hl
  rcases C16.mem_centerLines _ _ _ _ l hl with h1 | h1 | h1 | h1
  · rw [h1]; exact clean_nil
  · exact clean_splitNL p hp l h1
  · exact clean_splitNL c hc l h1
  · exact clean_splitNL s hs l h1

theorem clean_replaceLastLine (s r out : Str) (hs : Clean s) (hr : Clean r)
    (ho : replaceLastLine s r = .ok out) : Clean out := by
  unfold replaceLastLine at ho
  split at ho
  · cases ho
  · simp only [Except.ok.injEq] at ho
    subst ho
    refine clean_append _ _ ?_ (clean_cons '\n' (Or.inl rfl) r hr)
    cases hi : lastIndexNL s with
    | none => exact clean_nil
    | some i =>
      obtain ⟨b, e⟩ := C16.lastIndexNL_some hi
      rw [e] at hs
      exact clean_prefix_nl hs

/-- `SetLength` output is clean whatever text goes in (it scrubs): the status line may quote hook
    output or a link. -/
theorem clean_setLength (s : Str) (w : Int) (e : Char) (out : Str) (he : Uni.isControl e = false)
    (ho : setLength s w [e] = .ok out) : Clean out := by
  have ht := noCtl_squash _ (scrub_noCtl s)
  unfold setLength at ho
  generalize squash (scrub s) = t at ht ho
  simp only at ho
  split at ho
  · cases ho; exact clean_nil
  · split at ho
    · split at ho
      · cases ho
      · cases ho
        exact clean_append _ _ (clean_plain _ (noCtl_sublist (List.take_sublist _ _) ht))
          (clean_char e (Or.inr he))
    · split at ho
      · cases ho
        exact clean_append _ _ (clean_plain _ ht) (clean_plain _ (noCtl_rep ' ' _ (by decide)))
      · cases ho
        exact clean_plain _ ht

section
variable (c : Colors) (hc : ColorsOk c)
include hc

theorem clean_bold (s : Str) (h : Clean s) : Clean (Style.bold s) ∧ Clean (Style.italic s) ∧
    Clean (Style.underline s) ∧ Clean (Style.strikethrough s) :=
  have _ := hc  -- the four literal attributes need no assumption on the colours
  ⟨Cells.clean_bold s h, Cells.clean_italic s h, Cells.clean_underline s h,
    Cells.clean_strikethrough s h⟩

theorem clean_colors (s : Str) (h : Clean s) : Clean (Style.color c s) ∧ Clean (Style.red c s) ∧
    Clean (Style.code c s) ∧ Clean (Style.highlight c s) ∧ Clean (Style.codeBlock c s) :=
  ⟨Cells.clean_color c hc s h, Cells.clean_red c hc s h, Cells.clean_code c hc s h,
    Cells.clean_highlight c hc s h, Cells.clean_codeBlock c hc s h⟩

theorem clean_link (s : Str) (n : Nat) (h : Clean s) : Clean (Style.link c s n) ∧ Clean (Style.linkBlock c s n) :=
  ⟨Cells.clean_link c hc s n h, Cells.clean_linkBlock c hc s n h⟩

theorem clean_blocks (s : Str) (k : Nat) (h : Clean s) :
    Clean (Style.quoteBlock c s) ∧ Clean (Style.header c s k) ∧ Clean (Style.bullet s) :=
  ⟨Cells.clean_quoteBlock c hc s h, Cells.clean_header c hc s k h, Cells.clean_bullet s h⟩

/-- HTML / Markdown: for every forest whose element names are free of control characters —
    arbitrary strings in text nodes and attribute values — and every width, the rendering is clean. -/
theorem html_clean (nodes : List Dom.Node) (ht : Hypertext.tagsCleanList nodes = true) (w : Int) :
    Clean (Markup.htmlR c nodes w) := by
  rw [C15P.htmlR_eq]
  exact clean_trim isSpNl isSpNl_spec _ (clean_wrap _ _ (kids_clean c hc nodes ht _ _ _ _ clean_nil))

/-- Gemtext: every list of control-free lines. -/
theorem gemtext_clean (lines : List Str) (hl : ∀ l ∈ lines, Safe.noCtl l = true ∧ '\n' ∉ l) (w : Int) :
    Clean (Markup.gemR c lines w) := by
  rw [C15P.gemR_eq]
  exact clean_trim isNl isNl_spec _ (clean_wrap _ _ (gem_text_clean c hc lines (fun l hl' => (hl l hl').1) w))

/-- Plain text: every control-free string. -/
theorem plaintext_clean (text : Str) (ht : Safe.noCtl text = true) (w : Int) :
    Clean (Markup.plainR c text w) := by
  rw [C15P.plainR_eq]
  exact clean_trim isNl isNl_spec _ (clean_wrap _ _ (replaceUrls_clean c hc _ _ _ _ ht))

end

/-- Non-vacuity: the default colours are well-formed. -/
example : ColorsOk ⟨"164;245;155".toList, "156;53;53".toList, "13;125;0".toList, "75;75;75".toList⟩ := by
  exact ⟨by decide, by decide, by decide, by decide⟩

end CleanProps
