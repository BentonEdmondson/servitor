import Model.Ansi
import Generated.GoAnsi
import Proofs.Gen16

/-
  The tie by translation for C16: the vertical layout functions of ansi/ansi.go (Height, Squash,
  CenterVertically, ReplaceLastLine, SetLength) are translated from the source on every run
  (`Generated/GoAnsi.lean`, namespace `GenAnsi`); the theorems below say the generated code
  computes what the hand-written model (`Model/Ansi.lean`) computes, so the C16 theorems hold of the
  code as translated.  Sizes are bounded by 2^62 where Go's fixed-width integers matter (a Go
  string cannot be longer than that; terminal heights are far smaller).
-/

namespace Gen16
open Str

theorem height_eq (t : Str) (ht : t.length < 2 ^ 62) : GenAnsi.Height t = .ok (Ansi.height t) := by
  have hc := countNL_le_length t
  have h64 : countNL t < 2 ^ 64 := by rw [two62] at ht; rw [two64]; omega
  simp only [GenAnsi.Height, ofNat10, countChar_nl, toUint_natCast _ h64, Ansi.height]
  rfl

theorem squash_eq (t : Str) : GenAnsi.Squash t = .ok (Ansi.squash t) := by
  simp only [GenAnsi.Squash, ofNat10, str_sp, replaceChar_nl]
  rfl

theorem centerVertically_eq (p c s : Str) (h : Nat)
    (hp : p.length < 2 ^ 62) (hc : c.length < 2 ^ 62) (hs : s.length < 2 ^ 62) (hh : h < 2 ^ 62) :
    GenAnsi.CenterVertically p c s h = .ok (Ansi.centerVertically p c s h) := by
  -- the two buffer sizes do not exceed their sum
  have halves : ∀ n : Nat, n / 2 ≤ n ∧ n / 2 + n % 2 ≤ n := fun n => by omega
  have h63 : h < 2 ^ 63 := by rw [two62] at hh; rw [two63]; omega
  have p63 : Ansi.height p < 2 ^ 63 := by
    have := height_le p; rw [two62] at hp; rw [two63]; omega
  have lp := (C16.height_eq_length p).symm
  have lc := (C16.height_eq_length c).symm
  have ls := (C16.height_eq_length s).symm
  simp only [GenAnsi.CenterVertically, Ansi.centerVertically, height_eq p hp, height_eq c hc,
    height_eq s hs, ofNat10, str_nl, splitChar_nl, bind, Except.bind, pure, Except.pure]
  clear hp hc hs hh
  generalize Ansi.height p = ph at *
  generalize Ansi.height c = ch at *
  generalize Ansi.height s = sh at *
  by_cases h1 : h ≤ ch
  · simp only [h1, decide_true, if_true]
    rw [sliceTo_toInt _ h (lc ▸ h1) h63]
    simp only [join_nl]
  · simp only [h1, decide_false, if_false, Bool.false_eq_true]
    rw [usub_of_le h ch (Nat.le_of_not_le h1)]
    have n63 : h - ch < 2 ^ 63 := Nat.lt_of_le_of_lt (Nat.sub_le ..) h63
    have t63 := Nat.lt_of_le_of_lt (halves (h - ch)).1 n63
    have b63 := Nat.lt_of_le_of_lt (halves (h - ch)).2 n63
    clear halves n63
    generalize (h - ch) / 2 + (h - ch) % 2 = bottom at *
    generalize (h - ch) / 2 = top at *
    -- what the two slicings return, each under the test that leads to it
    have sP : top < ph → Go.sliceFrom (splitNL p) (Go.toInt (Go.usub ph top)) = .ok ((splitNL p).drop (ph - top)) :=
      fun a => by rw [usub_of_le _ _ (Nat.le_of_lt a), toInt_of_lt _ (by omega), sliceFrom_nat _ _ (by omega)]
    have sS : bottom < sh → Go.sliceTo (splitNL s) (Go.toInt bottom) = .ok ((splitNL s).take bottom) :=
      fun a => sliceTo_toInt _ _ (by omega) b63
    have hP : (top > ph ∧ ¬ top < ph) ∨ (¬ top > ph ∧ top < ph) ∨ (¬ top > ph ∧ ¬ top < ph) := by omega
    have hS : (bottom > sh ∧ ¬ bottom < sh) ∨ (¬ bottom > sh ∧ bottom < sh) ∨ (¬ bottom > sh ∧ ¬ bottom < sh) := by
      omega
    rcases hP with ⟨a, b⟩ | ⟨a, b⟩ | ⟨a, b⟩ <;>
      simp only [a, b, t63, repeat_usub, sP, decide_true, decide_false, if_true, if_false, Bool.false_eq_true, join_nl] <;>
      rcases hS with ⟨d, e⟩ | ⟨d, e⟩ | ⟨d, e⟩ <;>
      simp only [d, e, b63, repeat_usub, sS, decide_true, decide_false, if_true, if_false, Bool.false_eq_true] <;>
      by_cases z : top = 0 <;>
      simp only [z, decide_true, decide_false, if_true, if_false, Bool.false_eq_true,
        List.append_assoc, List.cons_append, List.nil_append]

theorem replaceLastLine_eq (o r : Str) : GenAnsi.ReplaceLastLine o r = Ansi.replaceLastLine o r := by
  simp only [GenAnsi.ReplaceLastLine, Ansi.replaceLastLine, ofNat10, str_nl, containsChar_nl,
    lastIndexChar_nl]
  by_cases hr : r.contains '\n' = true
  · simp only [hr, if_true]; rfl
  · simp only [hr]
    cases hl : Ansi.lastIndexNL o with
    | none =>
      simp [sliceTo_int o 0 (Int.le_refl 0) (Int.natCast_nonneg _), bind, Except.bind, pure, Except.pure]
    | some i =>
      have hi := lastIndexNL_le o i hl
      have hne : ¬ ((i : Int) = -1) := by omega
      simp [hne, sliceTo_nat o i hi, bind, Except.bind, pure, Except.pure]

theorem setLength_eq (t : Str) (n : Int) (e : Str) : GenAnsi.SetLength t n e = Ansi.setLength t n e := by
  simp only [GenAnsi.SetLength, Ansi.setLength, squash_eq, str_sp, str_empty, Go.len,
    bind, Except.bind, pure, Except.pure]
  generalize Ansi.squash (Ansi.scrub t) = u
  by_cases h0 : n = 0
  · simp [h0]
  · simp only [h0, decide_false, if_false, Bool.false_eq_true]
    by_cases h1 : (u.length : Int) > n
    · simp only [h1, decide_true, if_true]
      by_cases h2 : n - 1 < 0
      · simp only [sliceTo_neg u _ h2, h2, if_true]
      · simp only [sliceTo_int u (n - 1) (by omega) (by omega), h2, if_false]
    · simp only [h1, decide_false, if_false, Bool.false_eq_true]
      by_cases h2 : (u.length : Int) < n
      · simp only [h2, decide_true, if_true]
        rw [repeat_nonneg ' ' _ (by omega)]
      · simp only [h2, decide_false, if_false, Bool.false_eq_true]

end Gen16
