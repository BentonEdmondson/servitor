import Model
import Props.Clean
import Proofs.C01p

/-
  C01 / C14 at item level: the full text, the preview and the name of every post, actor, activity
  and error item are clean (hence terminal-safe and attribute-neutral at every line break), for
  all fields as the constructors leave them (`PostOk`, `ActorOk`: values are scrubbed) — error
  messages are arbitrary strings (they may quote network bytes).
-/

namespace C01p
open Str Ansi Cells Present PresentP

def BodyOk : Body → Prop
  | .html nodes => Hypertext.tagsCleanList nodes = true
  | .gem lines => ∀ l ∈ lines, Safe.noCtl l = true ∧ '\n' ∉ l
  | .plain t => Safe.noCtl t = true

theorem body_render_clean (c : Colors) (hc : ColorsOk c) (b : Body) (hb : BodyOk b) (w : Int) :
    Clean (b.render c w) := by
  cases b with
  | html nodes => exact CleanProps.html_clean c hc nodes hb w
  | gem lines => exact CleanProps.gemtext_clean c hc lines hb w
  | plain t => exact CleanProps.plaintext_clean c hc t hb w

/-- Stated on the `match` that `PostV.center c p w` (on `p.body`) and `ActorV.center c a w` (on
    `a.bio`) both unfold to, so that one lemma serves the two. -/
theorem center_clean (c : Colors) (hc : ColorsOk c) (body : Fld Body)
    (hb : ∀ b, body = .ok b → BodyOk b) (w : Int) :
    ∀ s, (match body with
      | .absent _ => none
      | .err m => some (Ansi.wrap (problem c m) w)
      | .ok b => some (b.render c w)) = some s → Clean s := by
  intro s hs
  cases body with
  | absent => cases hs
  | err m => obtain rfl := Option.some.inj hs; exact clean_wrap _ _ (clean_problem c hc _)
  | ok b => obtain rfl := Option.some.inj hs; exact body_render_clean c hc b (hb b rfl) w

/-- What the constructors guarantee about the fields of a post: strings read with `GetString`
    are scrubbed, names of creators are themselves `Name()` results (clean), formatted times and
    counts are printable.  Error messages are unconstrained. -/
structure PostOk (p : PostV) : Prop where
  kind : Safe.noCtl p.kind = true
  title : ∀ t, p.title = .ok t → Safe.noCtl t = true
  body : ∀ b, p.body = .ok b → BodyOk b
  creators : ∀ n ∈ p.creators, Clean n
  recipients : ∀ n ∈ p.recipients, Clean n
  created : ∀ a, p.created = .ok a → Safe.noCtl a = true
  agoZero : Safe.noCtl p.agoZero = true
  attachments : ∀ as, p.attachments = .ok as → ∀ l ∈ as,
      (∀ a, l.alt = .ok a → Safe.noCtl a = true) ∧ (∀ u, l.uri = .ok u → Safe.noCtl u = true)
  size : ∀ n, p.comments = .size (.ok n) → Safe.noCtl n = true

theorem post_header_clean (c : Colors) (hc : ColorsOk c) (p : PostV) (hp : PostOk p) (w : Int) :
    Clean (p.header c w) := by
  unfold PostV.header
  refine clean_wrap _ _
    (clean_append _ _ (clean_append _ _ (clean_append _ _ (clean_append _ _ ?_ ?_) ?_) ?_) ?_)
  · split
    · rename_i t h
      exact clean_append _ _ (clean_bold _ (clean_plain _ (hp.title t h))) clean_nl
    · exact clean_nil
    · exact clean_append _ _ (clean_problem c hc _) clean_nl
  · exact clean_if _ (clean_colorPlain c hc _ (by decide)) (clean_color c hc _ (clean_lower _ hp.kind))
  · exact clean_if _ clean_nil
      (clean_append _ _ (clean_plain _ (by decide)) (clean_joinComma c hc _ hp.creators))
  · exact clean_if _ clean_nil
      (clean_append _ _ (clean_plain _ (by decide)) (clean_joinComma c hc _ hp.recipients))
  · split
    · exact clean_append _ _ (clean_plain _ (by decide)) (clean_problem c hc _)
    · rename_i a h
      exact clean_append _ _ (clean_plain _ (by decide)) (clean_colorPlain c hc _ (hp.created a h))
    · exact clean_append _ _ (clean_plain _ (by decide)) (clean_colorPlain c hc _ hp.agoZero)

theorem post_supplement_clean (c : Colors) (hc : ColorsOk c) (p : PostV) (hp : PostOk p) (w : Int) :
    ∀ s, p.supplement c w = some s → Clean s := by
  intro s hs
  unfold PostV.supplement at hs
  split at hs
  · cases hs
  · obtain rfl := Option.some.inj hs; exact clean_wrap _ _ (clean_problem c hc _)
  · cases hs
  · rename_i as _ h
    obtain rfl := Option.some.inj hs
    exact clean_joinNL _ (clean_supplementLines c hc w _ as 0 (hp.attachments as h))

theorem post_footer_clean (c : Colors) (hc : ColorsOk c) (p : PostV) (hp : PostOk p) :
    Clean (p.footer c) := by
  unfold PostV.footer
  split
  · exact clean_colorPlain c hc _ (by decide)
  · exact clean_colorPlain c hc _ (by decide)
  · exact clean_colorPlain c hc _ (by decide)
  · exact clean_problem c hc _
  · rename_i n h
    apply clean_colorPlain c hc
    rw [noCtl_append]
    refine ⟨hp.size n h, ?_⟩
    split <;> decide

theorem post_string_clean (c : Colors) (hc : ColorsOk c) (p : PostV) (hp : PostOk p) (w : Int) :
    Clean (p.string c w) :=
  clean_append _ _ (clean_append _ _ (clean_append _ _ (post_header_clean c hc p hp w)
    (clean_part (center_clean c hc p.body hp.body _) clean_para clean_nil))
    (clean_part (post_supplement_clean c hc p hp _) clean_para clean_nil))
    (clean_nl_cons _ (clean_nl_cons _ (post_footer_clean c hc p hp)))

/-- The preview never panics, is clean, and has at most four lines. -/
theorem post_preview_clean (c : Colors) (hc : ColorsOk c) (p : PostV) (hp : PostOk p) (w : Int) :
    ∃ out, p.preview c w = .ok out ∧ Clean out ∧ Ansi.height out ≤ 4 := by
  unfold PostV.preview
  extract_lets body o1 o2
  have h1 : Clean o1 := clean_append _ _ (post_header_clean c hc p hp w)
    (clean_part (center_clean c hc p.body hp.body w) clean_nl_cons clean_nil)
  exact snip4 c hc _ _ (clean_part (post_supplement_clean c hc p hp w)
    (fun a ha => clean_append _ _ (clean_append _ _ h1 (clean_if _ clean_nl clean_nil))
      (clean_nl_cons _ ha)) h1)

theorem post_name_clean (c : Colors) (hc : ColorsOk c) (p : PostV) (hp : PostOk p) : Clean (p.name c) := by
  unfold PostV.name
  split
  · rename_i t h
    exact clean_plain _ (hp.title t h)
  · exact clean_problem c hc _
  · exact clean_problem c hc _

structure ActorOk (a : ActorV) : Prop where
  kind : Safe.noCtl a.kind = true
  name : ∀ n, a.name = .ok n → Safe.noCtl n = true
  handle : ∀ h, a.handle = .ok h → Safe.noCtl h = true
  host : ∀ h, a.host = some h → Safe.noCtl h = true
  bio : ∀ b, a.bio = .ok b → BodyOk b
  joined : ∀ d, a.joined = .ok d → Safe.noCtl d = true
  posts : ∀ n, a.posts = .ok (.ok n) → Safe.noCtl n = true

/-- `Actor.Name()`: display name, then `@handle@host`, then the kind unless it is a person. -/
theorem actor_name_clean (c : Colors) (hc : ColorsOk c) (a : ActorV) (ha : ActorOk a) : Clean (a.nameStr c) := by
  have spaced : ∀ o : Str, Clean o → Clean (if o.isEmpty then [] else o ++ [' ']) :=
    fun o ho => clean_if _ clean_nil (clean_append _ _ ho (clean_plain _ (by decide)))
  unfold ActorV.nameStr
  extract_lets o1 o2 o3
  have h1 : Clean o1 := by
    unfold o1
    split
    · rename_i n h
      exact clean_plain _ (ha.name n h)
    · exact clean_nil
    · exact clean_problem c hc _
  have h2 : Clean o2 := by
    unfold o2
    split
    · rename_i h hd hh1 hh2
      refine clean_append _ _ (spaced _ h1) (clean_italic _ (clean_plain _ ?_))
      have e : (('@' :: hd) ++ '@' :: h) = ['@'] ++ hd ++ ['@'] ++ h := by simp
      rw [e, noCtl_append, noCtl_append, noCtl_append]
      exact ⟨⟨⟨by decide, ha.handle _ hh2⟩, by decide⟩, ha.host _ hh1⟩
    · exact clean_append _ _ (spaced _ h1) (clean_problem c hc _)
    · exact h1
  refine clean_color c hc _ (clean_if _ ?_ (clean_if _ (clean_lower _ ha.kind) h2))
  exact clean_append _ _ (clean_append _ _ (spaced _ h2)
    (clean_cons _ (Or.inr (by decide)) _ (clean_lower _ ha.kind))) (clean_plain _ (by decide))

theorem actor_header_clean (c : Colors) (hc : ColorsOk c) (a : ActorV) (ha : ActorOk a) (w : Int) :
    Clean (a.header c w) := by
  unfold ActorV.header
  refine clean_wrap _ _ (clean_append _ _ (actor_name_clean c hc a ha) ?_)
  split
  · exact clean_nil
  · exact clean_append _ _ (clean_plain _ (by decide)) (clean_problem c hc _)
  · rename_i d h
    exact clean_append _ _ (clean_plain _ (by decide)) (clean_colorPlain c hc _ (ha.joined d h))

theorem actor_footer_clean (c : Colors) (hc : ColorsOk c) (a : ActorV) (ha : ActorOk a) :
    ∀ s, a.footer c = some s → Clean s := by
  intro s hs
  unfold ActorV.footer at hs
  split at hs
  · obtain rfl := Option.some.inj hs; exact clean_problem c hc _
  · obtain rfl := Option.some.inj hs; exact clean_problem c hc _
  · cases hs
  · obtain rfl := Option.some.inj hs; exact clean_problem c hc _
  · rename_i n h
    obtain rfl := Option.some.inj hs
    apply clean_colorPlain c hc
    rw [noCtl_append]
    refine ⟨ha.posts n h, ?_⟩
    split <;> decide

theorem actor_string_clean (c : Colors) (hc : ColorsOk c) (a : ActorV) (ha : ActorOk a) (w : Int) :
    Clean (a.string c w) :=
  clean_append _ _ (clean_append _ _ (actor_header_clean c hc a ha w)
    (clean_part (center_clean c hc a.bio ha.bio _) clean_para clean_nil))
    (clean_part (actor_footer_clean c hc a ha)
      (fun _ hf => clean_append _ _ (clean_if _ clean_nl clean_nil) (clean_nl_cons _ hf)) clean_nil)

theorem actor_preview_clean (c : Colors) (hc : ColorsOk c) (a : ActorV) (ha : ActorOk a) (w : Int) :
    ∃ out, a.preview c w = .ok out ∧ Clean out := by
  unfold ActorV.preview
  have hh := actor_header_clean c hc a ha w
  have hfoot := clean_part (actor_footer_clean c hc a ha) clean_nl_cons clean_nil
  cases hb : a.center c w with
  | none => exact ⟨_, rfl, clean_append _ _ hh hfoot⟩
  | some b =>
    obtain ⟨s, hs, hcs, _⟩ := snip4 c hc b w (center_clean c hc a.bio ha.bio w b hb)
    simp only [hs]
    exact ⟨_, rfl, clean_append _ _ (clean_append _ _ hh (clean_nl_cons _ hcs)) hfoot⟩

/-- Error items: clean for **every** message. -/
theorem failure_clean (c : Colors) (hc : ColorsOk c) (msg : Str) (w : Int) :
    Clean (failureName c msg) ∧ Clean (failureString c msg w) :=
  ⟨clean_problem c hc msg, clean_wrap _ _ (clean_problem c hc msg)⟩

/-- Activities: header (actor name + verb) in front of the target's text. -/
theorem activity_clean (c : Colors) (hc : ColorsOk c) (kind actorName target : Str) (w : Int)
    (hn : Clean actorName) (ht : Clean target) : Clean (activityHeader c kind actorName w ++ target) := by
  have _ := hc  -- the header has no colour of its own
  exact clean_append _ _ (clean_activityHeader c kind actorName w hn) ht

/-- Consequently the full text of a post is terminal-safe and leaves no attribute active at a line
    break; the same two steps apply to every other `Clean` string above. -/
theorem post_string_safe (c : Colors) (hc : ColorsOk c) (p : PostV) (hp : PostOk p) (w : Int) :
    Safe.safe (p.string c w) = true ∧ neutralAtBreaks (p.string c w) = true := by
  have h := post_string_clean c hc p hp w
  exact ⟨CleanProps.clean_safe _ h, CleanProps.clean_neutral _ h⟩

end C01p
