import Model.Splicer
import Generated.GoSplicer
import Props.C11
import Props.Gen11

/-
  C11 stated directly about the code as translated from splicer/splicer.go
  (`Generated/GoSplicer.lean`): the C11 theorems carried across the equalities of `Props/Gen11.lean`.
  The conclusions speak of `GenSplicer.Harvest` / `GenSplicer.microharvest`; the model appears only as
  the specification (the trace of pops `C11.popTrace`, the buffers after `replenish` and `skip`).
  Hypotheses as in Gen11: no nil element in a buffer or a delivery (`lift`, `liftHv`), and
  quantity + startingPoint < 2^62.
-/

namespace GenT11
open Splicer Gen11

variable {C T : Type}

/-- The buffers `Harvest(q, st)` merges: every source refilled up to `q + st`, then `st` items
    merged away. -/
def buffers (hv : Hv C T) (ts : T → Int) (s : List (Source C T)) (q st : Nat) : List (Source C T) :=
  skip ts st (Splicer.replenish hv (q + st) s)

/-- `Gen11.harvest_eq` with `Splicer.harvest` unfolded: `Harvest` is `take` on `buffers`. -/
theorem harvest_take (hv : Hv C T) (ts : T → Int) (s : List (Source C T)) (q st : Nat)
    (hq : q + st < 2 ^ 62) :
    GenSplicer.Harvest (liftHv hv) ts (lift s) q st =
      .ok ((take ts q (buffers hv ts s q st)).1.map some, (take ts q (buffers hv ts s q st)).2.map lift, 0) :=
  Gen11.harvest_eq hv ts s q st hq

/-- The translated `Harvest` never panics, returns position 0, and what it delivers is the
    newest-first merge of the replenished sources: the items of the trace of pops, in order —
    each pop takes the head with the greatest timestamp, the earliest source winning ties
    (`microharvest_pops_newest`) — and at most `q` of them. -/
theorem harvest_is_merge (hv : Hv C T) (ts : T → Int) (s : List (Source C T)) (q st : Nat)
    (hq : q + st < 2 ^ 62) :
    ∃ out cont, GenSplicer.Harvest (liftHv hv) ts (lift s) q st = .ok (out, cont, 0) ∧
      out = ((C11.popTrace ts q (buffers hv ts s q st)).map (·.2)).map some ∧
      out.length ≤ q := by
  refine ⟨_, _, harvest_take hv ts s q st hq, by rw [C11.take_is_trace], ?_⟩
  have hc := C11.take_count ts q (buffers hv ts s q st)
  rw [List.length_map]
  split at hc
  · exact Nat.le_of_eq hc
  · exact Nat.le_of_lt hc.1

/-- One translated `microharvest` on nil-free buffers pops the newest head: the item returned is the
    head of some source `i`, no head is newer, the heads of earlier sources are strictly older, and
    exactly that head is removed. -/
theorem microharvest_pops_newest (ts : T → Int) (s : List (Source C T)) (e : T)
    (s1 : GenSplicer.Splicer C T) (h : GenSplicer.microharvest ts (lift s) = .ok (some e, s1)) :
    ∃ i src, s[i]? = some src ∧ src.elements.head? = some e ∧
      (∀ j x, (j, x) ∈ C11.heads s → ts x ≤ ts e) ∧
      (∀ j x, (j, x) ∈ C11.heads s → j < i → ts x < ts e) ∧
      s1 = lift (s.set i { src with elements := src.elements.tail }) := by
  rw [Gen11.microharvest_eq] at h
  obtain ⟨h1, rfl⟩ := Prod.mk.inj (Except.ok.inj h)
  obtain ⟨i, src, hi, hh, hle, hlt, hs⟩ := C11.microharvest_spec ts s e _ (Prod.ext h1 rfl)
  exact ⟨i, src, hi, hh, hle, hlt, congrArg lift hs⟩

/-- When `Harvest` hands back a continuation, it is the splicer whose buffers are what
    the merge left: for every source, the items delivered from it followed by what it still holds
    are its replenished buffer — nothing twice, nothing dropped, order kept — and exactly `q` items
    were delivered. -/
theorem harvest_exactly_once (hv : Hv C T) (ts : T → Int) (s : List (Source C T)) (q st : Nat)
    (hq : q + st < 2 ^ 62) (out : List (Option T)) (c : GenSplicer.Splicer C T)
    (h : GenSplicer.Harvest (liftHv hv) ts (lift s) q st = .ok (out, some c, 0)) :
    out.length = q ∧
    ∃ s', c = lift s' ∧ ∀ i src, (buffers hv ts s q st)[i]? = some src →
      ∃ src', s'[i]? = some src' ∧
        ((C11.popTrace ts q (buffers hv ts s q st)).filter (fun p => p.1 = i)).map (·.2) ++ src'.elements
          = src.elements := by
  rw [harvest_take hv ts s q st hq] at h
  obtain ⟨rfl, h2⟩ := Prod.mk.inj (Except.ok.inj h)
  obtain ⟨s', h3, rfl⟩ := Option.map_eq_some_iff.mp (Prod.mk.inj h2).1
  have hc := C11.take_count ts q (buffers hv ts s q st)
  rw [h3] at hc
  exact ⟨by rw [List.length_map]; exact hc, s', rfl, C11.take_exactly_once ts q _ s' h3⟩

/-- The continuation is nil — the feed has ended — exactly when fewer than `q` items
    were left in the buffers; then everything that was left has been delivered. -/
theorem harvest_nil_iff_exhausted (hv : Hv C T) (ts : T → Int) (s : List (Source C T)) (q st : Nat)
    (hq : q + st < 2 ^ 62) :
    ∃ out cont, GenSplicer.Harvest (liftHv hv) ts (lift s) q st = .ok (out, cont, 0) ∧
      (cont = none ↔ C11P.total (buffers hv ts s q st) < q) ∧
      (cont = none → out.length = C11P.total (buffers hv ts s q st)) := by
  refine ⟨_, _, harvest_take hv ts s q st hq, ?_, fun hn => ?_⟩
  · rw [Option.map_eq_none_iff]; exact C11P.take_none_iff ..
  · have hc := C11.take_count ts q (buffers hv ts s q st)
    rw [Option.map_eq_none_iff.mp hn] at hc
    rw [List.length_map]; exact hc.2

/-! ### Non-vacuity: a concrete splicer run through the translated code

  Two sources over list containers that deliver what is asked (container = what is left); the
  first holds 5 in its buffer, the rest comes from replenishing. -/

def listHv : Hv (List Nat) Nat := fun c n _ =>
  (c.take n, if (c.drop n).isEmpty then none else some (c.drop n), 0)

def twoSources : List (Source (List Nat) Nat) := [⟨0, some [1], [5]⟩, ⟨0, some [7, 2, 0], []⟩]

example : GenSplicer.Harvest (liftHv listHv) (fun n => (n : Int)) (lift twoSources) 3 0
    = .ok ([some 7, some 5, some 2], some (lift [⟨0, none, [1]⟩, ⟨0, none, [0]⟩]), 0) := by
  rfl

example : GenSplicer.Harvest (liftHv listHv) (fun n => (n : Int)) (lift twoSources) 3 3
    = .ok ([some 1, some 0], none, 0) := by
  rfl

end GenT11
