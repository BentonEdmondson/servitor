import Model
import Generated.Facts

/-
  `Splicer.Harvest` first clones the splicer and then lets the *clone* fetch: a splicer handed to
  several callers is a value, so asking the same feed position twice — one after the other or at
  the same time — gives the same answer (C11), which is what lets `Model/Splicer.lean` treat a
  splicer as an immutable value.
-/

namespace Facts11

theorem harvest_works_on_a_clone :
    Generated.splicerHarvestHead = ["clone:=s.clone()", "clone.replenish(int(quantity+startingPoint))"] := rfl

end Facts11
