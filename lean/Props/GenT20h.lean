import Props.C20
import Props.Gen20h

/-
  Property C20 stated directly about `(*State).openExternally` as translated from the source
  (`Generated/GoHook.lean`): what the hook program is started with.  Each theorem is the one of
  `Props/C20.lean` carried across `Gen20h.openExternally_build` (the translated code hands os/exec
  what `Hook.build` says); the hand-written model appears in no statement below.

  `r.cmd.argv` is the argv of the started program (`exec.Command(name, arg...)`: the name, then the
  arguments), `r.cmd.stdin` what `cmd.Stdin` was set to, `r.configured` the configured hook after
  the call.  The media type is the non-nil one the callers pass; for a nil one see
  `Gen20h.openExternally_nil_type_ok` / `_panic`.
-/

namespace GenT20h
open Gen20h

variable {R : Type}

/-- The placeholders, as the configuration spells them. -/
def placeholders : List Str := ["%url".toList, "%mimetype".toList, "%subtype".toList, "%supertype".toList]

/-- Shape of the argv: as long as the hook, the program name untouched, every other argument
    replaced iff it is *exactly* a placeholder, otherwise passed on verbatim. -/
theorem argv_shape (hook : List Str) (g : GenHook.State R) (link : Str) (mt : GenMime.MediaType)
    (hne : hook ≠ []) :
    ∃ r, GenHook.openExternally hook g link (some mt) = .ok r ∧
      r.cmd.argv.length = hook.length ∧
      r.cmd.argv[0]? = hook[0]? ∧
      ∀ i, 1 ≤ i → ∀ a, hook[i]? = some a →
        r.cmd.argv[i]? = some
          (if a = "%url".toList then link
           else if a = "%mimetype".toList then mt.Essence
           else if a = "%subtype".toList then mt.Subtype
           else if a = "%supertype".toList then mt.Supertype
           else a) := by
  obtain ⟨c, hb, h1, h2, h3⟩ := C20.argv_shape hook link (Gen03m.toModel mt) hne
  obtain ⟨r, hr, hc⟩ := of_build g hb
  subst hc
  exact ⟨r, hr, h1, h2, h3⟩

/-- The program name is never substituted, even if it is itself a placeholder. -/
theorem program_never_substituted (prog : Str) (args : List Str) (g : GenHook.State R) (link : Str)
    (mt : GenMime.MediaType) :
    ∃ r, GenHook.openExternally (prog :: args) g link (some mt) = .ok r ∧
      r.cmd.name = prog ∧ r.cmd.argv.head? = some prog := by
  exact ⟨_, openExternally_cons prog args g link mt, rfl, rfl⟩

/-- An argument that merely CONTAINS a placeholder (`--title=%subtype`, `%url%url`, `x%url`), or
    anything else that is not exactly one of the four, is handed on untouched. -/
theorem non_placeholder_untouched (hook : List Str) (g : GenHook.State R) (link : Str)
    (mt : GenMime.MediaType) (r : GenHook.Started R)
    (h : GenHook.openExternally hook g link (some mt) = .ok r)
    (i : Nat) (hi : 1 ≤ i) (a : Str) (ha : hook[i]? = some a) (hn : a ∉ placeholders) :
    r.cmd.argv[i]? = some a :=
  C20.non_placeholder_untouched hook link (Gen03m.toModel mt) (cmdOf r.cmd) (build_of h) i hi a ha hn

/-- The link is on standard input iff no argument after the program name is exactly `%url`. -/
theorem stdin_iff (hook : List Str) (g : GenHook.State R) (link : Str) (mt : GenMime.MediaType)
    (r : GenHook.Started R) (h : GenHook.openExternally hook g link (some mt) = .ok r) :
    (r.cmd.stdin = some link ↔ ∀ i, 1 ≤ i → hook[i]? ≠ some "%url".toList) ∧
    (r.cmd.stdin = none ↔ ∃ i, 1 ≤ i ∧ hook[i]? = some "%url".toList) :=
  C20.stdin_iff hook link (Gen03m.toModel mt) (cmdOf r.cmd) (build_of h)

/-- The link arrives verbatim, as one whole argument, wherever `%url` stood — whatever it
    contains, placeholders included: substitution is one pass over the configured arguments. -/
theorem link_verbatim (hook : List Str) (g : GenHook.State R) (link : Str) (mt : GenMime.MediaType)
    (r : GenHook.Started R) (h : GenHook.openExternally hook g link (some mt) = .ok r)
    (i : Nat) (hi : 1 ≤ i) (ha : hook[i]? = some "%url".toList) :
    r.cmd.argv[i]? = some link :=
  C20.link_verbatim hook link (Gen03m.toModel mt) (cmdOf r.cmd) (build_of h) i hi ha

/-- The configured hook is never modified: whatever was substituted went into a copy. -/
theorem configured_hook_unchanged (hook : List Str) (g : GenHook.State R) (link : Str)
    (m : Option GenMime.MediaType) (r : GenHook.Started R)
    (h : GenHook.openExternally hook g link m = .ok r) : r.configured = hook :=
  (openExternally_ok h).2.2

/-- The configured hook being unchanged, a second opening sees the placeholders again: the same hook,
    another link, that link. -/
theorem second_opening (hook : List Str) (g g' : GenHook.State R) (link link' : Str)
    (mt mt' : GenMime.MediaType) (r r' : GenHook.Started R)
    (h : GenHook.openExternally hook g link (some mt) = .ok r)
    (h' : GenHook.openExternally r.configured g' link' (some mt') = .ok r')
    (i : Nat) (hi : 1 ≤ i) (ha : hook[i]? = some "%url".toList) :
    r'.cmd.argv[i]? = some link' := by
  rw [configured_hook_unchanged hook g link (some mt) r h] at h'
  exact link_verbatim hook g' link' mt' r' h' i hi ha

/-- An empty hook is the only way to panic (excluded by `Config.Safe`, C19). -/
theorem panic_iff_empty (hook : List Str) (g : GenHook.State R) (link : Str) (mt : GenMime.MediaType) :
    (∃ e, GenHook.openExternally hook g link (some mt) = .error e) ↔ hook = [] :=
  Gen20h.panic_iff_empty hook g link mt

/-- Non-vacuity: a hook with an exact and an embedded placeholder, a link with a blank in it. -/
example :
    (GenHook.openExternally ["mpv".toList, "--".toList, "%url".toList, "x%url".toList, "%subtype".toList]
        (⟨GenHook.normal, [], ()⟩ : GenHook.State Unit) "a b".toList (some ⟨"image/png".toList, "image".toList, "png".toList⟩)).map
      (fun r => (r.cmd.argv, r.cmd.stdin, r.configured, r.state.mode, r.state.buffer)) =
    .ok (["mpv".toList, "--".toList, "a b".toList, "x%url".toList, "png".toList], none,
         ["mpv".toList, "--".toList, "%url".toList, "x%url".toList, "%subtype".toList], GenHook.opening, "a b".toList) := by
  rw [openExternally_cons]
  exact congrArg Except.ok (by decide +kernel)

/-- Non-vacuity: without `%url` the link goes to standard input. -/
example :
    (GenHook.openExternally ["cat".toList] (⟨GenHook.normal, [], ()⟩ : GenHook.State Unit) "l".toList
        (some ⟨"*/*".toList, "*".toList, "*".toList⟩)).map (fun r => (r.cmd.argv, r.cmd.stdin)) =
    .ok (["cat".toList], some "l".toList) := by
  rw [openExternally_cons]
  exact congrArg Except.ok (by decide +kernel)

end GenT20h
