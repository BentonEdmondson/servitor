import Model.Pub
import Generated.GoClient
import Props.Gen17
import Proofs.C02

/-
  The tie by translation for C02 (and C09, which rests on the same function): `client.FetchUnknown`
  is translated from client/client.go on every run (`Generated/GoClient.lean`, namespace
  `GenClient`, by `extract/go2lean13.go`) — the type switch on the input, `url.Parse`,
  `ResolveReference` under `source != nil`, both `FetchURL` calls, both `GetURL("id")` with their
  `errors.Is(err, object.ErrKeyNotPresent)` split, the re-fetch condition and the forged-identifier
  test, with every pointer an `Option` and every read through a pointer a possible panic.

  `fetchUnknown_eq` says: with the external calls taken from the model's `World` (`url.Parse` =
  `World.parse`, `FetchURL` = `World.fetch` on the URL's `String()`, `ResolveReference` =
  `World.resolve (some ·)`, the field `Host` = `U.host`), the translated function never panics and
  returns exactly what `Pub.fetchUnknown` (the function all C02 / C09 theorems are stated over)
  returns, for every world, every input value and every source.

  Without a source the code calls `FetchURL(ref)` and not `ResolveReference`; the model says so
  through `World.target` (Model/Pub.lean), which consults `World.resolve` only under a source, so
  nothing is assumed about `resolve none`.
-/

namespace Gen02
open Pub

def libs (w : World) : Obj.Libs Unit U := { parseTime := fun _ => none, parseUrl := w.parse }

def ext (w : World) : GenClient.Ext U where
  Host := fun u => u.host
  ResolveReference := fun s r => w.resolve (some s) r
  FetchURL := fun u => match w.fetch u.str with
    | some r => .ok r
    | none => .error ()

/-- The triple the Go function returns for a verdict of the model. -/
def triple : Except Unit (O × Option U) → O × Option U × Option Obj.Err
  | .ok (o, id) => (o, id, none)
  | .error _ => ([], none, some .wrong)

private theorem ret2_ok {α : Type} (v : α) : Go.ret2 (.ok v : Obj.R α) = (some v, none) := rfl
private theorem ret2_error {α : Type} (e : Obj.Err) : Go.ret2 (.error e : Obj.R α) = (none, some e) := rfl
private theorem ret3_ok {κ α : Type} (m : List κ) (p : α) : Go.ret3 (.ok (m, p) : Obj.R (List κ × α)) = (m, some p, none) := rfl
private theorem ret3_error {κ α : Type} (e : Obj.Err) : Go.ret3 (.error e : Obj.R (List κ × α)) = ([], none, some e) := rfl
private theorem ofExt_ok {α : Type} (a : α) : Go.ofExt (.ok a) = .ok a := rfl
private theorem ofExt_error {α : Type} (u : Unit) : Go.ofExt (.error u : Except Unit α) = .error .wrong := rfl
private theorem ofOption_some {α : Type} (a : α) : Go.ofOption (some a) = .ok a := rfl
private theorem ofOption_none {α : Type} : Go.ofOption (none : Option α) = .error .wrong := rfl
private theorem deref_some {α : Type} (a : α) : Go.deref (some a) = .ok a := rfl
private theorem deref_none {α : Type} : Go.deref (none : Option α) = .error .nilDeref := rfl
private theorem andM_true (b : Except Panic Bool) : Go.andM (.ok true) b = b := rfl
private theorem andM_false (b : Except Panic Bool) : Go.andM (.ok false) b = .ok false := rfl
private theorem orM_true (b : Except Panic Bool) : Go.orM (.ok true) b = .ok true := rfl
private theorem orM_false (b : Except Panic Bool) : Go.orM (.ok false) b = b := rfl
private theorem errorIs_none (t : Obj.Err) : Go.errorIs none t = false := rfl
private theorem errorIs_absent : Go.errorIs (some .absent) .absent = true := rfl
private theorem errorIs_wrong : Go.errorIs (some .wrong) .absent = false := rfl
private theorem parseUrl_eq (w : World) : (libs w).parseUrl = w.parse := rfl
private theorem host_eq (w : World) (u : U) : (ext w).Host u = u.host := rfl
private theorem resolve_eq (w : World) (s r : U) : (ext w).ResolveReference s r = w.resolve (some s) r := rfl
private theorem fetchURL_eq (w : World) (u : U) :
    (ext w).FetchURL u = match w.fetch u.str with | some r => .ok r | none => .error () := rfl
private theorem lenMap_eq (o : O) : Go.lenMap o = (o.length : Int) := rfl
private theorem bind_ok {α β : Type} (a : α) (f : α → Except Panic β) : (Except.ok a >>= f) = f a := rfl
private theorem getId_cases (w : World) (o : O) :
    getId w o = .error () ∨ getId w o = .ok none ∨ ∃ id, getId w o = .ok (some id) := by
  cases h : getId w o with
  | error e => exact .inl rfl
  | ok oid => cases oid with
    | none => exact .inr (.inl rfl)
    | some id => exact .inr (.inr ⟨id, rfl⟩)
private theorem map_ok {α β : Type} (a : α) (f : α → β) : (f <$> (Except.ok a : Except Panic α)) = Except.ok (f a) := rfl
private theorem pure_eq {α : Type} (a : α) : (pure a : Except Panic α) = .ok a := rfl

/-- `GetURL(obj, "id")` as translated, through any libraries whose `url.Parse` is the world's, is
    the model's `getId`. -/
theorem getURL_id {Time : Type} (L : Obj.Libs Time U) (w : World) (hL : L.parseUrl = w.parse) (o : O) :
    Go.ret2 (GenObject.GetURL L o (Go.str "id")) =
      match getId w o with
      | .ok (some u) => (some u, none)
      | .ok none => (none, some .absent)
      | .error _ => (none, some .wrong) := by
  rw [Gen17.getURL_eq]
  unfold Obj.getURL getId Go.str
  rw [hL]
  cases Obj.getString o "id".toList with
  | error e => cases e <;> rfl
  | ok s => dsimp only; cases w.parse s <;> rfl

/-- The re-fetch condition as translated — `id != nil && (source == nil || source.Host != id.Host
    || len(obj) <= 2)`, each dereference guarded by what stands left of it — is the model's. -/
theorem needs_eq (w : World) (o : O) (src : Option U) (id : U) :
    Go.andM (pure (some id).isSome) (Go.orM (Go.orM (pure src.isNone)
        (do pure (decide ((ext w).Host (← Go.deref src) ≠ (ext w).Host (← Go.deref (some id))))))
      (pure (decide (Go.lenMap o ≤ 2)))) = .ok (C02aux.needs o src id) := by
  cases src with
  | none => rfl
  | some s =>
    have hl : decide (Go.lenMap o ≤ 2) = decide (o.length ≤ 2) :=
      decide_eq_decide.2 (by unfold Go.lenMap; omega)
    rw [hl]
    unfold C02aux.needs
    simp only [pure_eq, Option.isSome_some, Option.isNone_some, andM_true, orM_false, deref_some, bind_ok, host_eq]
    by_cases hh : s.host = id.host <;>
      simp only [hh, ne_eq, not_true_eq_false, not_false_eq_true, decide_true, decide_false, orM_true, orM_false,
        Bool.true_or, Bool.false_or]

/-- On an embedded object the translated function is the second step of the model: the id is
    read, and the object kept or re-fetched and tested for a forged identifier. -/
theorem second_eq {Time : Type} (L : Obj.Libs Time U) (w : World) (hL : L.parseUrl = w.parse) (o : O)
    (source : Option U) :
    GenClient.FetchUnknown L (ext w) (.obj o) source = .ok (triple (C02aux.second w o source)) := by
  unfold GenClient.FetchUnknown C02aux.second
  simp only [getURL_id L w hL]
  cases hg : getId w o with
  | error e => rfl
  | ok oid => cases oid with
    | none => rfl
    | some id =>
      simp only [Go.errorIs, Option.isSome_none, Bool.false_eq_true, if_false, needs_eq, bind_ok]
      cases C02aux.needs o source id with
      | false => rfl
      | true =>
        simp only [if_true, deref_some, bind_ok, Bool.not_true, Bool.false_eq_true, if_false, C02aux.refetch]
        rw [fetchURL_eq]
        cases w.fetch id.str with
        | none => rfl
        | some r =>
          obtain ⟨o', src'⟩ := r
          simp only [ofExt_ok, ret3_ok, Option.isSome_none, Bool.false_eq_true, if_false]
          rcases getId_cases w o' with hg' | hg' | ⟨id', hg'⟩ <;> simp only [hg']
          · rfl
          · rfl
          · simp only [pure_eq, Option.isSome_some, andM_true, deref_some, bind_ok, host_eq]
            by_cases hh : src'.host = id'.host <;>
              simp only [hh, ne_eq, not_true_eq_false, not_false_eq_true, decide_true, decide_false, if_true, if_false] <;> rfl

/-- A reference is parsed, resolved against the source if there is one, and fetched; what comes
    back is treated as an embedded object with the final URL as its source. -/
theorem str_step {Time : Type} (L : Obj.Libs Time U) (w : World) (hL : L.parseUrl = w.parse) (s : Str)
    (source : Option U) :
    GenClient.FetchUnknown L (ext w) (.str s) source =
      match C02aux.first w (.str s) source with
      | .error _ => .ok ([], none, some .wrong)
      | .ok (o, src) => GenClient.FetchUnknown L (ext w) (.obj o) src := by
  rw [GenClient.FetchUnknown]
  -- what follows the type switch is one function of the source and the object (a join point of the
  -- translation): named `K`, it is the whole function on an embedded object, and the proof need
  -- not look inside it
  generalize hK : (fun (_ : Unit) (_ : Option U) (_ : O) => (_ : Except Panic _)) = K
  have hobj (o src) : GenClient.FetchUnknown L (ext w) (.obj o) src = K () src o := by
    rw [← hK, GenClient.FetchUnknown]
  simp only [hobj]
  rw [hL]
  unfold C02aux.first
  dsimp only
  cases w.parse s with
  | none => rfl
  | some ref =>
    -- with a source or without, one call of `FetchURL`; then whether it succeeds
    have hcall := fetchURL_eq w
    cases source <;>
      simp only [ofOption_some, ret2_ok, deref_some, bind_ok, World.target, resolve_eq, Option.isSome_none,
        Option.isSome_some, Bool.false_eq_true, if_false, if_true, hcall] <;>
      generalize w.fetch _ = f <;> cases f <;> rfl

/-- Of the libraries the translated function reads only `url.Parse`. -/
theorem fetchUnknown_libs {Time : Type} (L : Obj.Libs Time U) (w : World) (hL : L.parseUrl = w.parse)
    (input : JVal) (source : Option U) :
    GenClient.FetchUnknown L (ext w) input source = .ok (triple (fetchUnknown w input source)) := by
  rw [C02aux.fetchUnknown_eq]
  cases input with
  | str s =>
    rw [str_step L w hL]
    cases C02aux.first w (.str s) source with
    | error e => rfl
    | ok r => exact second_eq L w hL r.1 r.2
  | obj kvs => exact second_eq L w hL kvs source
  | _ => rfl

/-- **The translated `FetchUnknown` is the model's `fetchUnknown`**, for every world, every input
    value and every source: it never dereferences a nil pointer (the outer `.ok`), and it returns
    the model's verdict as Go's triple — the object and its id with a nil error, or nil, nil and an
    error that is not `ErrKeyNotPresent`. -/
theorem fetchUnknown_eq (w : World) (input : JVal) (source : Option U) :
    GenClient.FetchUnknown (libs w) (ext w) input source = .ok (triple (fetchUnknown w input source)) :=
  fetchUnknown_libs (libs w) w rfl input source

end Gen02
