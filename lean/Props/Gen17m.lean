import Model.Json
import Generated.GoGlue
import Props.Gen17

/-
  The tie by translation for `object.GetMarkup` (C17: classification of what an object holds; C15:
  which renderer a body gets): `extract/go2lean27.go` translates `GetMarkup` — the two accessors
  it calls (the translated `GenObject.GetString` / `GetMediaType`), the default media type when the
  key is absent, the `switch` over the essence with the constructor each case hands the content to,
  the error of the default case — into `GenGlue.GetMarkup`, whose result is the constructor chosen
  (a value of the generated enumeration `GenGlue.Ctor`) and its argument.  Below: it is the model's
  `Obj.getMarkupKind` (`Model/Json.lean`), and the decision table, stated on the translated code.

  The constructors of `hypertext` and `markdown` call an external parser / converter; they are
  translated with that function as a parameter (`GenGlue.hypertext_NewMarkup`,
  `GenGlue.markdown_NewMarkup`): what is passed in, what is made of the result (the first render at
  width 80, what is cached), and the error path.
-/

namespace Gen17m

variable {Time Url : Type}

theorem str_eq (s : String) : Go.str s = s.toList := rfl

/-- Which renderer of the model a constructor of the code builds. -/
def kindOf : GenGlue.Ctor → Obj.MarkupKind
  | .plaintext_NewMarkup => .plain
  | .hypertext_NewMarkup => .html
  | .gemtext_NewMarkup => .gemini
  | .markdown_NewMarkup => .markdown

/-- The order of the cases in the source. -/
theorem ctor_order : GenGlue.Ctor.plaintext_NewMarkup.ctorIdx = 0 ∧ GenGlue.Ctor.hypertext_NewMarkup.ctorIdx = 1 ∧
    GenGlue.Ctor.gemtext_NewMarkup.ctorIdx = 2 ∧ GenGlue.Ctor.markdown_NewMarkup.ctorIdx = 3 := ⟨rfl, rfl, rfl, rfl⟩

theorem error_text : GenGlue.GetMarkup_errorText = "cannot render text of mime type " := rfl

/-- The `switch` of `GetMarkup`: the constructor an essence selects. -/
def ctorOf (essence : Str) : Obj.R GenGlue.Ctor :=
  if essence = "text/plain".toList then .ok .plaintext_NewMarkup
  else if essence = "text/html".toList then .ok .hypertext_NewMarkup
  else if essence = "text/gemini".toList then .ok .gemtext_NewMarkup
  else if essence = "text/markdown".toList then .ok .markdown_NewMarkup
  else .error .wrong

/-- The constructor `GetMarkup` picks for what `GetMediaType` returned: by the essence of the
    media type, of `text/html` when the key is absent. -/
def chosen : Obj.R Mime.MediaType → Obj.R GenGlue.Ctor
  | .error .absent => ctorOf Mime.default.essence
  | .error e => .error e
  | .ok m => ctorOf m.essence

theorem ctorOf_map {α : Type} (f : GenGlue.Ctor → α) (essence content : Str) :
    (ctorOf essence).map (f ·, content) =
      if essence = "text/plain".toList then .ok (f .plaintext_NewMarkup, content)
      else if essence = "text/html".toList then .ok (f .hypertext_NewMarkup, content)
      else if essence = "text/gemini".toList then .ok (f .gemtext_NewMarkup, content)
      else if essence = "text/markdown".toList then .ok (f .markdown_NewMarkup, content)
      else .error .wrong := by
  unfold ctorOf
  rw [apply_ite (Except.map _), apply_ite (Except.map _), apply_ite (Except.map _), apply_ite (Except.map _)]
  rfl

/-- `GetMarkup` in one line: the content, with the constructor chosen for the media type. -/
theorem getMarkup_chosen (L : Obj.Libs Time Url) (o : List (Str × JVal)) (ck mk : Str) :
    GenGlue.GetMarkup L o ck mk =
      (Obj.getString o ck).bind fun content => (chosen (Obj.getMediaType o mk)).map (·, content) := by
  unfold GenGlue.GetMarkup
  simp only [Gen17.getString_eq, Gen17.getMediaType_eq, decide_eq_true_eq]
  cases Obj.getString o ck with
  | error e => rfl
  | ok content =>
    -- the translation writes its literals `Go.str "…"`, which unfolds to those of `ctorOf`
    cases Obj.getMediaType o mk with
    | error e =>
      cases e with
      | wrong => rfl
      -- by rewriting: left to unification, `Except.bind` against `Except.map` gets `ctorOf` evaluated
      -- on the literal essence of `Mime.default`
      | absent => rw [Except.bind, chosen]; exact (ctorOf_map id _ content).symm
    | ok m => exact (ctorOf_map id _ content).symm

/-- No usable content (missing, null, empty after scrubbing, not a string): that error, whatever the
    media type key holds — the media type is not even looked at. -/
theorem content_error (L : Obj.Libs Time Url) (o : List (Str × JVal)) (ck mk : Str) (e : Obj.Err)
    (h : Obj.getString o ck = .error e) : GenGlue.GetMarkup L o ck mk = .error e := by
  rw [getMarkup_chosen, h]; rfl

/-- The only place where two essence strings are compared: as string literals, not character by
    character. -/
theorem chosen_absent : chosen (.error .absent) = .ok .hypertext_NewMarkup := by
  have h : ¬ "text/html".toList = "text/plain".toList := by
    simp only [String.toList_inj, String.reduceEq, not_false_eq_true]
  rw [chosen]
  dsimp only [Mime.default]
  rw [ctorOf, if_neg h, if_pos rfl]

/-- The media type key is absent: the default is `text/html`, so the content goes to `hypertext.NewMarkup`. -/
theorem absent_type_is_html (L : Obj.Libs Time Url) (o : List (Str × JVal)) (ck mk : Str) (content : Str)
    (hc : Obj.getString o ck = .ok content) (hm : Obj.getMediaType o mk = .error .absent) :
    GenGlue.GetMarkup L o ck mk = .ok (.hypertext_NewMarkup, content) := by
  rw [getMarkup_chosen, hc, hm, Except.bind, chosen_absent]; rfl

/-- The media type key is present but unusable (wrong JSON type, not a media type): an error, NOT the default. -/
theorem bad_type_is_error (L : Obj.Libs Time Url) (o : List (Str × JVal)) (ck mk : Str) (content : Str)
    (hc : Obj.getString o ck = .ok content) (hm : Obj.getMediaType o mk = .error .wrong) :
    GenGlue.GetMarkup L o ck mk = .error .wrong := by
  rw [getMarkup_chosen, hc, hm]; rfl

/-- A media type that parses: its essence alone decides (parameters and case of the rest play no part). -/
theorem essence_decides (L : Obj.Libs Time Url) (o : List (Str × JVal)) (ck mk : Str) (content : Str) (m : Mime.MediaType)
    (hc : Obj.getString o ck = .ok content) (hm : Obj.getMediaType o mk = .ok m) :
    GenGlue.GetMarkup L o ck mk =
      if m.essence = "text/plain".toList then .ok (.plaintext_NewMarkup, content)
      else if m.essence = "text/html".toList then .ok (.hypertext_NewMarkup, content)
      else if m.essence = "text/gemini".toList then .ok (.gemtext_NewMarkup, content)
      else if m.essence = "text/markdown".toList then .ok (.markdown_NewMarkup, content)
      else .error .wrong := by
  rw [getMarkup_chosen, hc, hm]
  exact ctorOf_map id m.essence content

/-- The content handed to the constructor is the scrubbed string `GetString` returns, unchanged. -/
theorem content_passed_on (L : Obj.Libs Time Url) (o : List (Str × JVal)) (ck mk : Str) (k : GenGlue.Ctor) (x : Str)
    (h : GenGlue.GetMarkup L o ck mk = .ok (k, x)) : Obj.getString o ck = .ok x := by
  rw [getMarkup_chosen] at h
  cases hs : Obj.getString o ck with
  | error e => rw [hs] at h; cases h
  | ok content =>
    rw [hs] at h
    cases hk : chosen (Obj.getMediaType o mk) <;> rw [Except.bind, hk] at h <;> cases h
    rfl

/-- **`GetMarkup` = the model's dispatch**, for every object and every pair of keys. -/
theorem getMarkup_eq (L : Obj.Libs Time Url) (o : List (Str × JVal)) (ck mk : Str) :
    (GenGlue.GetMarkup L o ck mk).map (fun p => (kindOf p.1, p.2)) = Obj.getMarkupKind o ck mk := by
  rw [getMarkup_chosen]
  unfold Obj.getMarkupKind
  cases Obj.getString o ck with
  | error e => rfl
  | ok content =>
    have leaf (m : Mime.MediaType) :=
      (show ((ctorOf m.essence).map (·, content)).map (fun p => (kindOf p.1, p.2)) = _ by
        cases ctorOf m.essence <;> rfl).trans (ctorOf_map kindOf m.essence content)
    cases Obj.getMediaType o mk with
    | error e =>
      cases e with
      | wrong => rfl
      | absent => rw [Except.bind, chosen]; exact leaf Mime.default
    | ok m => exact leaf m

section ctors
variable {E R : Type}

theorem parse_call : GenGlue.hypertext_parseCall =
    "html.ParseFragment(strings.NewReader(text), &html.Node{ Type: html.ElementNode, Data: \"body\", DataAtom: atom.Body, })" := rfl

theorem convert_call : GenGlue.markdown_convertCall = "renderer.Convert([]byte(text), &buf)" ∧
    GenGlue.markdown_renderer = "goldmark.New(goldmark.WithExtensions(extension.GFM))" := ⟨rfl, rfl⟩

/-- `hypertext.NewMarkup` when the parser fails: its error, nothing rendered. -/
theorem hypertext_parse_error (c : Colors) (expand : Str → List Go.Match) (W : GenHypertext.Ext)
    (parse : Str → Except E (List Go.Html.Node)) (text : Str) (e : E) (h : parse text = .error e) :
    GenGlue.hypertext_NewMarkup c expand W parse text = .ok (.error e) := by
  unfold GenGlue.hypertext_NewMarkup
  rw [h]; rfl

/-- `hypertext.NewMarkup` when the parser succeeds: the nodes are kept as the tree, rendered ONCE at width 80
    with the translated `renderWithLinks`; that text is cached for width 80 and its links are returned. -/
theorem hypertext_new (c : Colors) (expand : Str → List Go.Match) (W : GenHypertext.Ext)
    (parse : Str → Except E (List Go.Html.Node)) (text : Str) (nodes : List Go.Html.Node) (h : parse text = .ok nodes) :
    GenGlue.hypertext_NewMarkup c expand W parse text =
      (GenHypertext.renderWithLinks c expand W nodes 80).map
        (fun r => .ok (({ tree := nodes, cached := r.1, cachedWidth := 80 } : GenHypertext.Markup), r.2)) := by
  unfold GenGlue.hypertext_NewMarkup
  rw [h]
  simp only [bind, Except.bind, Except.map, pure, Except.pure]

/-- What was cached is what the translated `Render` answers at width 80, without rendering again, and
    the markup stays as it is (`Props/Gen15h.lean` has `Render` at the other widths). -/
theorem hypertext_first_render_cached (c : Colors) (expand : Str → List Go.Match) (W : GenHypertext.Ext)
    (parse : Str → Except E (List Go.Html.Node)) (text : Str) (m : GenHypertext.Markup) (links : List Str)
    (h : GenGlue.hypertext_NewMarkup c expand W parse text = .ok (.ok (m, links))) :
    GenHypertext.Render c expand W m 80 = .ok (m.cached, m) ∧
    ∃ nodes, parse text = .ok nodes ∧ m.tree = nodes ∧
      GenHypertext.renderWithLinks c expand W nodes 80 = .ok (m.cached, links) := by
  cases hp : parse text with
  | error e => rw [hypertext_parse_error c expand W parse text e hp] at h; cases h
  | ok nodes =>
    rw [hypertext_new c expand W parse text nodes hp] at h
    cases hr : GenHypertext.renderWithLinks c expand W nodes 80 with
    | error e => rw [hr] at h; cases h
    | ok r =>
      rw [hr] at h
      cases h
      refine ⟨?_, nodes, rfl, rfl, hr⟩
      unfold GenHypertext.Render
      exact if_pos rfl

/-- `markdown.NewMarkup`: the converter's error is returned; otherwise what the converter wrote — and
    not the Markdown source — goes to `hypertext.NewMarkup`, whose three results are passed on. -/
theorem markdown_new (convert : Str → Except E Str) (hyper : Str → Except Panic (Except E R)) (text : Str) :
    GenGlue.markdown_NewMarkup convert hyper text =
      match convert text with
      | .error e => .ok (.error e)
      | .ok html => hyper html := by
  unfold GenGlue.markdown_NewMarkup
  cases convert text <;> rfl

end ctors

end Gen17m
