import Model
import Generated.Facts

/-
  The typed accessors only ever read the decoded document: object/object.go contains no
  assignment through an index expression and no delete().  The pub fan-outs hand one decoded
  `map[string]any` (from the cache and singleflight) to several goroutines without a lock; that
  is race-free exactly because every accessor is read-only (C08), and it is what lets the model
  treat a document as a value (C17).
-/

namespace Facts17

theorem accessors_never_write : Generated.objectMapWrites = 0 := rfl

/-- The media type grammar `mime.Parse` (hence `GetMediaType`) accepts is the one `Mime.parse` was
    transcribed from: two runs of HTTP token characters around a slash, anything after. -/
theorem media_type_grammar_unchanged :
    Generated.mimeRegexes =
      ["(?s)^(([!#$%&'*+\\-.^_\\x60|~a-zA-Z0-9]+)/([!#$%&'*+\\-.^_\\x60|~a-zA-Z0-9]+)).*$"] ∧
    Generated.jtpRegexes.head? = Generated.mimeRegexes.head? :=
  ⟨rfl, rfl⟩

end Facts17
