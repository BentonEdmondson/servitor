import Model
import Proofs.C05
import Props.C03

/-
  C05 — network faults end in an error, never in partial data (logic part; real time, the TLS
  stack and the OS are observed by the fault-injection correspondence, see DESIGN.md).
-/

namespace C05
open Jtp

/-- (1a) If a complete response is classified as a document with body `body`, then every
    truncation inside the status line or the header block (before the blank line is complete)
    is an error. -/
theorem truncated_headers_err (tol : List Str) (resp body : Str) (h : exchange tol resp = .doc body)
    (k : Nat) (hk : k < resp.length - body.length) : exchange tol (resp.take k) = .err := by
  obtain ⟨pre, rfl, _, h3⟩ := exchange_doc_split tol resp body h
  simp only [List.length_append, Nat.add_sub_cancel] at hk
  rw [List.take_append_of_le_length (by omega)]
  exact h3 k hk

/-- (1b) A truncation inside the body of a response classified as a document is again classified
    as a document, and hands exactly the truncated body to the decoder. -/
theorem truncated_body (tol : List Str) (resp body : Str) (h : exchange tol resp = .doc body)
    (k : Nat) (hk : resp.length - body.length ≤ k) :
    exchange tol (resp.take k) = .doc (body.take (k - (resp.length - body.length))) := by
  obtain ⟨pre, rfl, h2, _⟩ := exchange_doc_split tol resp body h
  simp only [List.length_append, Nat.add_sub_cancel] at hk ⊢
  rw [List.take_append, List.take_of_length_le hk]
  exact h2 _

theorem body_suffix (tol : List Str) (resp body : Str) (h : exchange tol resp = .doc body) :
    body <:+ resp := by
  obtain ⟨pre, rfl, _, _⟩ := exchange_doc_split tol resp body h
  exact List.suffix_append pre body

/-- (1c) Hence, with a decoder that only succeeds on a complete top-level value (it fails on
    every proper prefix of the text of the value it consumed — `consumed b` bytes), a response
    truncated anywhere before the end of its JSON value is never accepted as a document. -/
theorem truncation_never_doc {Doc : Type} (tol : List Str) (decode : Str → Option Doc) (consumed : Str → Nat)
    (hpf : ∀ b d, decode b = some d → ∀ j, j < consumed b → decode (b.take j) = none)
    (resp body : Str) (d : Doc) (h : exchange tol resp = .doc body) (hd : decode body = some d)
    (k : Nat) (hk : k < resp.length - body.length + consumed body) :
    (match exchange tol (resp.take k) with
     | .doc b' => decode b' = none
     | .redirect _ => False
     | .err => True) := by
  by_cases hlt : k < resp.length - body.length
  · rw [truncated_headers_err tol resp body h k hlt]; trivial
  · rw [truncated_body tol resp body h k (by omega)]
    exact hpf body d hd _ (by omega)

/-- (2) The number of connections of a fetch is at most budget+1; so if every connection is
    bounded by `T` (dial timeout plus the deadline set on the connection), the whole fetch is
    bounded by `(budget+1)·T`. -/
theorem fetch_time_bounded {Doc : Type} (env : Env Doc) (tol : List Str) (b : Nat) (c : Cache Doc) (u : Url)
    (dur : Url → Nat) (T : Nat) (hT : ∀ r, dur r ≤ T) :
    (((get env tol b c u).requests.map dur).sum) ≤ (b + 1) * T := by
  exact Nat.le_trans (sum_map_le dur T hT _) (Nat.mul_le_mul_right T (C03.get_requests_bounded env tol b c u).1)

/-- (3) A response without a complete first line, or whose first line is no status line, is an
    error. -/
theorem garbage_is_err (tol : List Str) (resp : Str)
    (h : readLine resp = none ∨ ∃ sl rest, readLine resp = some (sl, rest) ∧ parseStatusLine sl = none) :
    exchange tol resp = .err := by
  unfold exchange
  rcases h with h | ⟨sl, rest, h1, h2⟩
  · rw [h]
  · rw [h1]; simp only [h2]

/-- Starting from an empty cache, a fetch from a link whose connection fails (dial or TLS:
    `serve u = none`) is an error. -/
theorem dial_failure_is_err {Doc : Type} (env : Env Doc) (tol : List Str) (b : Nat) (u : Url) (cap : Nat)
    (hs : env.serve u = none) :
    (match (get env tol b ({ cap := cap } : Cache Doc) u).res with | .err => True | .ok _ _ => False) := by
  unfold Jtp.get
  rw [show ({ cap := cap } : Cache Doc).get (cacheKey tol u) = (none, { cap := cap }) from rfl]
  simp only [hs]
  cases env.https u <;> exact True.intro

end C05
