import Model
import Generated.GoJtp
import Proofs.C03

/-
  The tie by translation for C03 (what a response means): `Generated/GoJtp.lean` is produced from
  jtp/jtp.go by `extract/go2lean9.go` on every run — `parseStatusLine`, `parseContentType`,
  `parseLocation`, `validateHeaders` and `findLocation` (their `for { … }` as the recursive
  `…_loop`, terminating because every iteration reads a line and the rest is shorter: no fuel),
  and `Get_response`, the statements of `Get` after `buf := bufio.NewReader(connection)`.

  The world the code calls is the parameter `W : GenJtp.Ext …`.  Three theorems hold for every
  `W` (`parse…_sub`): the recognisers keep the one group of a match of exactly two elements and
  treat every other result of `FindStringSubmatch` as "no match" — never an index panic.  The
  others are about a `W` that is `Faithful`: `ReadString('\n')` is the model's `readLine`, the three
  regular expressions match what `Jtp.parseStatusLine` / `Jtp.headerValue` recognise (whole match
  and the group), `mime.Parse` and `Matches` are the model's.  `url.Parse`, `ResolveReference`,
  the JSON decoder stay arbitrary; `connection.Close()` is assumed to succeed where its result is
  tested (the model has no failing Close).  For such a `W` the translated functions compute what
  `Model/Jtp.lean` computes: `validateHeaders` = `Jtp.validateHeaders` (including the reader
  state handed to the decoder), `findLocation` = `Jtp.findLocation` followed by parsing and
  resolving the value, `Get_response` = `Jtp.exchange` followed by what `Jtp.get` does with the
  outcome (`replyOf`: decode / resolve, budget, the entry added to the cache).  A model failure
  corresponds to a returned error, so the equalities also say that the code never panics.
-/

namespace Gen03
open Jtp

variable {Url Doc : Type}

theorem readLine_shorter (s l r : Str) (h : readLine s = some (l, r)) : r.length < s.length := by
  have := readLine_spec h
  rw [this.1, List.length_append]; omega

/-- What the parameters of the translated code must be for it to be about the model's world. -/
structure Faithful (W : GenJtp.Ext Url Mime.MediaType Doc) : Prop where
  readString : W.readString = readLine
  statusLine : ∀ t, W.statusLineRegexp t = (parseStatusLine t).map fun s => [t, s]
  contentType : ∀ t, W.contentTypeRegexp t = (headerValue "content-type".toList t).map fun v => [t, v]
  location : ∀ t, W.locationRegexp t = (headerValue "location".toList t).map fun v => [t, v]
  mimeParse : W.mimeParse = Mime.parse
  mediaTypeMatches : W.mediaTypeMatches = Mime.MediaType.matchesAny

def ext (urlParse : Str → Option Url) (resolveReference : Url → Url → Url) (decode : Str → Option Doc)
    (closeFails : Bool) : GenJtp.Ext Url Mime.MediaType Doc where
  readString := readLine
  readString_shorter := readLine_shorter
  statusLineRegexp := fun t => (parseStatusLine t).map fun s => [t, s]
  contentTypeRegexp := fun t => (headerValue "content-type".toList t).map fun v => [t, v]
  locationRegexp := fun t => (headerValue "location".toList t).map fun v => [t, v]
  mimeParse := Mime.parse
  mediaTypeMatches := Mime.MediaType.matchesAny
  urlParse := urlParse
  resolveReference := resolveReference
  decode := decode
  closeFails := closeFails

theorem ext_faithful (up : Str → Option Url) (rr : Url → Url → Url) (dec : Str → Option Doc) (cf : Bool) :
    Faithful (ext up rr dec cf) := by
  -- only the projections of `ext` are reduced: `rfl` goes on into `headerValue` and evaluates its literal
  constructor <;> intros <;> dsimp only [ext]

/-- The one group of a submatch result: `len(matches) != 2` then `matches[1]`. -/
def group1 : Option (List Str) → Option Str
  | some [_, g] => some g
  | _ => none

/-- What the translated recognisers test on a submatch result: the length, then element 1. -/
theorem submatch_cases : (m : Option (List Str)) →
    (decide (Go.len (Go.submatch m) ≠ 2) = true ∧ group1 m = none) ∨
    ∃ g, decide (Go.len (Go.submatch m) ≠ 2) = false ∧ Go.index (Go.submatch m) 1 = .ok g ∧
      group1 m = some g
  | some [_, g] => .inr ⟨g, rfl, rfl, rfl⟩
  | none | some [] | some [_] => .inl ⟨rfl, rfl⟩
  | some (_ :: _ :: _ :: l) =>
    .inl ⟨decide_eq_true (by simp only [Go.submatch, Go.len, Option.getD, List.length_cons]; omega), rfl⟩

variable (W : GenJtp.Ext Url Mime.MediaType Doc)

theorem parseStatusLine_sub (text : Str) :
    GenJtp.parseStatusLine W text = match group1 (W.statusLineRegexp text) with
      | some s => .ok s
      | none => .error .err := by
  unfold GenJtp.parseStatusLine
  rcases submatch_cases (W.statusLineRegexp text) with ⟨h1, h2⟩ | ⟨g, h1, h2, h3⟩
  · simp only [h1, h2]; rfl
  · simp only [h1, h2, h3]; rfl

theorem parseContentType_sub (text : Str) :
    GenJtp.parseContentType W text = match group1 (W.contentTypeRegexp text) with
      | none => .ok (none, false)
      | some v => match W.mimeParse v with
        | none => .error .err
        | some m => .ok (some m, true) := by
  unfold GenJtp.parseContentType
  rcases submatch_cases (W.contentTypeRegexp text) with ⟨h1, h2⟩ | ⟨g, h1, h2, h3⟩
  · simp only [h1, h2]; rfl
  · simp only [h1, h2, h3]; cases W.mimeParse g <;> rfl

theorem parseLocation_sub (text : Str) (base : Url) :
    GenJtp.parseLocation W text base = match group1 (W.locationRegexp text) with
      | none => .ok (none, false)
      | some v => match W.urlParse v with
        | none => .error .err
        | some r => .ok (some (W.resolveReference base r), true) := by
  unfold GenJtp.parseLocation
  rcases submatch_cases (W.locationRegexp text) with ⟨h1, h2⟩ | ⟨g, h1, h2, h3⟩
  · simp only [h1, h2]; rfl
  · simp only [h1, h2, h3]; cases W.urlParse g <;> rfl

variable {W}

/-- A model result as a result of the translated code: the model's failure is a returned error. -/
def ofOption {α : Type} : Option α → Except Go.Fail α
  | some a => .ok a
  | none => .error .err

theorem ofOption_ok_iff {α : Type} (o : Option α) (a : α) : ofOption o = .ok a ↔ o = some a := by
  cases o <;> simp [ofOption]

theorem ofOption_no_panic {α : Type} (o : Option α) (p : Panic) : ofOption o ≠ .error (.panic p) := by
  cases o <;> simp [ofOption]

theorem parseStatusLine_eq (hW : Faithful W) (text : Str) :
    GenJtp.parseStatusLine W text = ofOption (Jtp.parseStatusLine text) := by
  rw [parseStatusLine_sub, hW.statusLine]
  cases Jtp.parseStatusLine text <;> rfl

theorem parseContentType_eq (hW : Faithful W) (text : Str) :
    GenJtp.parseContentType W text = match Jtp.parseContentType text with
      | .notCT => .ok (none, false)
      | .bad => .error .err
      | .ok m => .ok (some m, true) := by
  rw [parseContentType_sub, hW.contentType, hW.mimeParse]
  unfold Jtp.parseContentType
  cases headerValue "content-type".toList text with
  | none => rfl
  | some v => simp only [Option.map, group1]; cases Mime.parse v <;> rfl

theorem parseLocation_eq (hW : Faithful W) (text : Str) (base : Url) :
    GenJtp.parseLocation W text base = match headerValue "location".toList text with
      | none => .ok (none, false)
      | some v => match W.urlParse v with
        | none => .error .err
        | some r => .ok (some (W.resolveReference base r), true) := by
  rw [parseLocation_sub, hW.location]
  cases headerValue "location".toList text <;> rfl

theorem blank_eq (line : Str) :
    (decide (line = Go.str "\r\n") || decide (line = Go.str "\n")) = isBlankLine line := rfl

theorem validateHeaders_loop_eq (hW : Faithful W) (tol : List Str) :
    ∀ (fuel : Nat) (s : Str) (v : Bool), s.length < fuel →
      GenJtp.validateHeaders_loop W tol v s = ofOption (Jtp.validateHeaders tol fuel s v) := by
  intro fuel
  induction fuel with
  | zero => intro s v h; omega
  | succ fuel ih =>
    intro s v hlen
    rw [GenJtp.validateHeaders_loop, Jtp.validateHeaders]
    split
    · rename_i h; rw [hW.readString] at h; rw [h]; rfl
    · rename_i line rest h
      rw [hW.readString] at h; rw [h]
      have hr := readLine_shorter _ _ _ h
      simp only [blank_eq]
      cases hb : isBlankLine line with
      | true => cases v <;> rfl
      | false =>
        simp only [Bool.false_eq_true, if_false]
        rw [parseContentType_eq hW]
        cases Jtp.parseContentType line with
        | notCT => simp only []; exact ih rest v (by omega)
        | bad => rfl
        | ok m =>
          simp only [hW.mediaTypeMatches]
          cases m.matchesAny tol with
          | true => simpa using ih rest true (by omega)
          | false => rfl

theorem validateHeaders_eq (hW : Faithful W) (tol : List Str) (s : Str) :
    GenJtp.validateHeaders W s tol = ofOption (Jtp.validateHeaders tol (s.length + 1) s false) := by
  unfold GenJtp.validateHeaders
  exact validateHeaders_loop_eq hW tol _ s false (by omega)

/-- What `Get` makes of the raw value of a Location line: `url.Parse`, then `ResolveReference`
    on the link that was asked for. -/
def locOf (W : GenJtp.Ext Url Mime.MediaType Doc) (base : Url) : Option Str → Except Go.Fail (Option Url)
  | none => .error .err
  | some v => match W.urlParse v with
    | none => .error .err
    | some r => .ok (some (W.resolveReference base r))

theorem findLocation_loop_eq (hW : Faithful W) (base : Url) :
    ∀ (fuel : Nat) (s : Str), s.length < fuel →
      ∃ after, GenJtp.findLocation_loop W base s =
        (locOf W base (Jtp.findLocation fuel s)).map (·, after) := by
  intro fuel
  induction fuel with
  | zero => intro s h; omega
  | succ fuel ih =>
    intro s hlen
    rw [GenJtp.findLocation_loop, Jtp.findLocation]
    split
    · rename_i h; rw [hW.readString] at h; rw [h]; exact ⟨[], rfl⟩
    · rename_i line rest h
      rw [hW.readString] at h; rw [h]
      simp only []
      rw [blank_eq]
      cases isBlankLine line with
      | true => exact ⟨[], rfl⟩
      | false =>
        simp only [Bool.false_eq_true, if_false]
        rw [parseLocation_eq hW]
        cases headerValue "location".toList line with
        | none => exact ih rest (by have := readLine_shorter _ _ _ h; omega)
        | some v =>
          simp only [locOf]
          cases W.urlParse v with
          | none => exact ⟨[], rfl⟩
          | some r => exact ⟨rest, rfl⟩

/-- The translated `findLocation` returns what `locOf` makes of the model's value, with the reader
    somewhere after the Location line. -/
theorem findLocation_eq (hW : Faithful W) (s : Str) (base : Url) :
    ∃ after, GenJtp.findLocation W s base =
      (locOf W base (Jtp.findLocation (s.length + 1) s)).map (·, after) :=
  findLocation_loop_eq hW base _ s (Nat.lt_succ_self _)

theorem redirect_test (status : Str) :
    Str.hasPrefix (Go.str "3") status = decide (status.head? = some '3') := by
  rcases status with _ | ⟨c, cs⟩
  · rfl
  · by_cases h : c = '3'
    · subst h; rfl
    · have h' : ¬ '3' = c := fun e => h e.symm
      simp [Str.hasPrefix, Go.str, List.isPrefixOf, h, h']

theorem success_test (status : Str) :
    (((decide (status ≠ Go.str "200") && decide (status ≠ Go.str "201")) && decide (status ≠ Go.str "202")) &&
      decide (status ≠ Go.str "203")) = !okStatuses.contains status := by
  unfold okStatuses Go.str
  generalize "200".toList = a
  generalize "201".toList = b
  generalize "202".toList = c
  generalize "203".toList = d
  simp [Bool.and_assoc]

/-- What `Get` does with a classified response (the model's `get`, between `exchange` and the
    recursion): decode a document, resolve a Location and spend one unit of the budget. -/
def replyOf (W : GenJtp.Ext Url Mime.MediaType Doc) (link : Url) (maxRedirects : Nat) (key : Str) :
    Outcome → Except Go.Fail (GenJtp.Reply Url Doc)
  | .err => .error .err
  | .doc body => match W.decode body with
    | none => .error .err
    | some d => .ok (.done d (some link) [(key, { item := some d, source := some link, redirect := none })])
  | .redirect v => match W.urlParse v with
    | none => .error .err
    | some r =>
      if maxRedirects = 0 then .error .err
      else .ok (.again (some (W.resolveReference link r)) (maxRedirects - 1)
        [(key, { item := none, source := none, redirect := some (W.resolveReference link r) })])

theorem replyOf_cases (W : GenJtp.Ext Url Mime.MediaType Doc) (link : Url) (n : Nat) (key : Str) (o : Outcome) :
    replyOf W link n key o = .error .err ∨
    (∃ body d, o = .doc body ∧ W.decode body = some d ∧ replyOf W link n key o =
      .ok (.done d (some link) [(key, { item := some d, source := some link, redirect := none })])) ∨
    (∃ v r, o = .redirect v ∧ W.urlParse v = some r ∧ n ≠ 0 ∧ replyOf W link n key o =
      .ok (.again (some (W.resolveReference link r)) (n - 1)
        [(key, { item := none, source := none, redirect := some (W.resolveReference link r) })])) := by
  fun_cases replyOf W link n key o with
  | case1 | case2 | case4 | case5 => exact .inl rfl
  | case3 body d hd => exact .inr (.inl ⟨body, d, rfl, hd, rfl⟩)
  | case6 v r hu hn => exact .inr (.inr ⟨v, r, rfl, hu, hn, rfl⟩)

/-- The statements of `Get` after the reader is set up compute the model's `exchange` on the bytes
    of the response, and then do with the outcome what the model's `get` does. -/
theorem response_eq (hW : Faithful W) (hc : W.closeFails = false) (link : Url) (tol : List Str)
    (n : Nat) (key : Str) (resp : Str) :
    GenJtp.Get_response W link tol n key resp = replyOf W link n key (exchange tol resp) := by
  unfold GenJtp.Get_response exchange
  simp only [hW.readString, hc, parseStatusLine_eq hW, redirect_test, success_test, validateHeaders_eq hW]
  cases readLine resp with
  | none => rfl
  | some p =>
    obtain ⟨sl, rest⟩ := p
    dsimp only
    cases Jtp.parseStatusLine sl with
    | none => rfl
    | some status =>
      dsimp only [ofOption]
      by_cases h3 : status.head? = some '3'
      · rw [if_pos (decide_eq_true h3), if_pos h3]
        obtain ⟨after, hf⟩ := findLocation_eq hW rest link
        rw [hf]
        cases Jtp.findLocation (rest.length + 1) rest with
        | none => rfl
        | some v =>
          dsimp only [locOf, replyOf]
          cases W.urlParse v with
          | none => rfl
          | some r => cases n <;> rfl
      · rw [if_neg (by simpa using h3), if_neg h3]
        cases okStatuses.contains status with
        | false => rfl
        | true =>
          cases Jtp.validateHeaders tol (rest.length + 1) rest false with
          | none => rfl
          | some body => cases W.decode body <;> rfl

/-- One hop of the model's `get` is the translated code: on a cache miss for an https link whose
    server answers `resp`, `Jtp.get` returns what the translated statements of `Get` return on
    `resp` — the document with its source, an error, or the recursive call on the resolved
    Location with the budget the code passes on — and files in the cache what the code adds
    (`Cache.add` under the same key).  Hypotheses: the decoder and `url.Parse`+`ResolveReference`
    of the code's world are the model's `Env.decode` / `Env.resolve` (URLs as their `String()`). -/
theorem get_fresh_eq (env : Env Doc) (W : GenJtp.Ext Jtp.Url Mime.MediaType Doc) (hW : Faithful W)
    (hc : W.closeFails = false) (hd : W.decode = env.decode) (tol : List Str) (u : Jtp.Url)
    (hr : ∀ v, (W.urlParse v).map (W.resolveReference u) = env.resolve u v)
    (budget : Nat) (cache : Cache Doc) (resp : Str)
    (hmiss : (cache.get (cacheKey tol u)).1 = none) (hs : env.https u = true)
    (hserve : env.serve u = some resp) :
    get env tol budget cache u =
      match GenJtp.Get_response W u tol budget (cacheKey tol u) resp with
      | .error _ => ⟨.err, (cache.get (cacheKey tol u)).2, [u]⟩
      | .ok (.done d _ _) =>
        ⟨.ok d u, ((cache.get (cacheKey tol u)).2).add (cacheKey tol u) (.doc d u), [u]⟩
      | .ok (.again none _ _) => ⟨.err, (cache.get (cacheKey tol u)).2, [u]⟩
      | .ok (.again (some t) b _) =>
        let r := get env tol b (((cache.get (cacheKey tol u)).2).add (cacheKey tol u) (.redirect t)) t
        ⟨r.res, r.cache, u :: r.requests⟩ := by
  rw [response_eq hW hc, Jtp.get]
  rcases hg : cache.get (cacheKey tol u) with ⟨e, c'⟩
  rw [hg] at hmiss; simp only at hmiss; subst hmiss
  simp only [hs, hserve, Bool.not_true, Bool.false_eq_true, if_false]
  cases exchange tol resp with
  | err => rfl
  | doc body =>
    simp only [replyOf, hd]
    cases env.decode body <;> rfl
  | redirect v =>
    simp only [replyOf]
    rw [← hr v]
    cases W.urlParse v with
    | none => rfl
    | some r =>
      cases budget with
      | zero => rfl
      | succ b => simp

end Gen03
