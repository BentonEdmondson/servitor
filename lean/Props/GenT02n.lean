import Model
import Generated.GoNewitem
import Props.C02
import Props.C09
import Props.Gen02n
import Props.GenT02

/-
  C02 and C09 stated directly about the constructors of package pub as translated from the Go
  source (`Generated/GoNewitem.lean`): the theorems of `Props/C02.lean` and `Props/C09.lean`
  carried across the equalities of `Props/Gen02n.lean`.  The world supplies what the code takes
  from outside (`Gen02n.libs`, `Gen02n.ext`); the presentation part is any implementation `P`
  whose `GetMarkup` reports the world's links (`P.Agrees w`); the model appears only in the
  vocabulary of the specification (`ItemOk`, `Served`, `Pre`, `getId`).
-/

namespace GenT02n
open Pub GenNewitem GenListing Gen02n

/-- C02 (2) on the code: whatever `pub.New` as translated builds — and with it every constructor
    it calls — is a tree in which every item with an id was built from JSON served by that id's
    host (embedded and kept only under the same host, re-fetched from there otherwise); and it
    never panics. -/
theorem new_provenance (w : World) (P : Pres) (hP : P.Agrees w) (input : JVal) (source : Option U)
    (hpre : C02.Pre w input source) :
    ∃ a, GenNewitem.New (libs w) (ext w P) input source = .ok a ∧ C02.ItemOk w (Gen09.anyToItem a) := by
  obtain ⟨a, ha, ha'⟩ := new_eq w P hP input source
  exact ⟨a, ha, by rw [ha']; exact C02.new_provenance w input source hpre⟩

/-- The same for `NewTangible`, the constructor of the entries of a collection opened directly. -/
theorem newTangible_provenance (w : World) (P : Pres) (hP : P.Agrees w) (e : E) (hpre : C02.Pre w e.1 e.2) :
    ∃ t, GenNewitem.NewTangible (libs w) (ext w P) e.1 e.2 = .ok t ∧ C02.ItemOk w (Gen09.toItem t) := by
  obtain ⟨t, ht, ht'⟩ := newTangible_eq w P hP e
  refine ⟨t, ht, ?_⟩
  rw [ht']
  have := C02.new_provenance w e.1 e.2 hpre
  unfold genericItem
  split
  · trivial
  · exact this

/-- A post the translated `NewPost` builds is built from what `FetchUnknown` accepted, under the id
    it accepted. -/
theorem newPost_inv (w : World) (P : Pres) (hP : P.Agrees w) (input : JVal) (source : Option U) (p : PostM)
    (h : NewPost (libs w) (ext w P) input source = .ok (.ok p)) :
    fetchUnknown w input source = .ok (p.obj, p.id) := by
  obtain ⟨r, hr, hr'⟩ := newPost_eq w P hP input source
  cases h.symm.trans hr
  unfold newPost at hr'
  cases hf : fetchUnknown w input source with
  | error e => rw [hf] at hr'; cases hr'
  | ok r =>
    rw [hf] at hr'
    obtain ⟨hid, hobj, _⟩ := C09aux.newPostFromObject_inv hr'.symm
    rw [hid, hobj]

/-- C02 (3b) on the code: a post the translated `NewPost` shows under an id was built from an
    object that was re-fetched from the URL in the id of the first object and came from the host
    its own id names, or kept embedded under a source of the id's host, or fetched by reference
    from the id's host — a document claiming an id of another host than the one that served it is
    never shown. -/
theorem forged_rejected (w : World) (P : Pres) (hP : P.Agrees w) (input : JVal) (source : Option U)
    (p : PostM) (id : U) (h : NewPost (libs w) (ext w P) input source = .ok (.ok p)) (hid : p.id = some id) :
    (∃ o0 id0 src, (input = .obj o0 ∨ ∃ ref u src0, input = .str ref ∧ w.parse ref = some u ∧
          w.fetch (w.target source u).str = some (o0, src0)) ∧
        getId w o0 = .ok (some id0) ∧ w.fetch id0.str = some (p.obj, src) ∧
        src.host = id.host ∧ getId w p.obj = .ok (some id)) ∨
    (∃ s, source = some s ∧ s.host = id.host ∧ input = .obj p.obj) ∨
    (∃ ref src, input = .str ref ∧ src.host = id.host ∧ ∃ u, w.parse ref = some u ∧
        w.fetch (w.target source u).str = some (p.obj, src)) := by
  have := newPost_inv w P hP input source p h
  rw [hid] at this
  exact C02.forged_rejected w input source p.obj id this

/-- C09 (3) on the code: a post the translated `NewPostFromObject` builds carries the id it was
    handed, and every author shown with it lives on the host of that id (or neither has an id);
    a post with an author from elsewhere is refused (`Gen02n.forged_iff`). -/
theorem post_authors_same_host (w : World) (P : Pres) (hP : P.Agrees w) (o : O) (id : Option U) (p : PostM)
    (h : NewPostFromObject (libs w) (ext w P) o id = .ok (.ok p)) :
    p.id = id ∧ ∀ a, AorF.actor a ∈ p.creators →
      (a.id = none ∧ id = none) ∨ (∃ ai pi, a.id = some ai ∧ id = some pi ∧ ai.host = pi.host) := by
  obtain ⟨r, hr, hr'⟩ := newPostFromObject_eq w P hP o id
  cases h.symm.trans hr
  exact C09.post_authors_same_host w o id p hr'.symm

def demoPres : Pres where
  Markup := Unit
  Link := Unit
  GetMarkup := fun _ _ _ => .ok ((), [])
  NewLink := fun _ => .ok ()
  NewLinkOfObject := fun _ => .ok ()
  SelectBestLink := fun _ _ => .ok (.ok ())
  SelectFirstLink := fun _ => .ok (.ok ())
  ToLower := id
  best_returns := fun _ _ => ⟨_, rfl⟩
  first_returns := fun _ => ⟨_, rfl⟩

theorem demoPres_agrees : demoPres.Agrees GenT02.demoWorld := fun _ _ _ => rfl

/-- The translated `NewPostFromObject` does build posts: a note without authors, no id. -/
example : ∃ p, NewPostFromObject (libs GenT02.demoWorld) (ext GenT02.demoWorld demoPres)
    [("type".toList, .str "Note".toList)] none = .ok (.ok p) ∧ p.creators = [] := by
  obtain ⟨r, hr, hr'⟩ := newPostFromObject_eq GenT02.demoWorld demoPres demoPres_agrees
    [("type".toList, .str "Note".toList)] none
  -- what the model answers is evaluated, as a Boolean test so that the kernel alone does it
  have hm : (match newPostFromObject GenT02.demoWorld [("type".toList, .str "Note".toList)] none with
      | .ok p => p.creators.isEmpty
      | .error _ => false) = true := by decide +kernel
  rw [← hr'] at hm
  cases r with
  | error e => cases hm
  | ok q => exact ⟨q, hr, List.isEmpty_iff.1 hm⟩

/-- The translated `NewPostFromObject` does refuse: an author embedded without an id under a post
    that has one. -/
example : ∃ e, NewPostFromObject (libs GenT02.demoWorld) (ext GenT02.demoWorld demoPres)
    [("type".toList, .str "Note".toList),
     ("attributedTo".toList, .obj [("type".toList, .str "Person".toList)])] (some ⟨['b', '2'], ['b']⟩) = .ok (.error e) ∧
    e.cls = .other := by
  obtain ⟨r, hr, hr'⟩ := newPostFromObject_eq GenT02.demoWorld demoPres demoPres_agrees
    [("type".toList, .str "Note".toList),
     ("attributedTo".toList, .obj [("type".toList, .str "Person".toList)])] (some ⟨['b', '2'], ['b']⟩)
  have hm : (match newPostFromObject GenT02.demoWorld [("type".toList, .str "Note".toList),
      ("attributedTo".toList, .obj [("type".toList, .str "Person".toList)])] (some ⟨['b', '2'], ['b']⟩) with
      | .error .other => true
      | _ => false) = true := by decide +kernel
  rw [← hr'] at hm
  cases r with
  | ok q => cases hm
  | error e =>
    refine ⟨e, hr, ?_⟩
    simp only [cls] at hm
    generalize e.cls = c at hm ⊢
    cases c with
    | other => rfl
    | _ => cases hm

end GenT02n
