import Model
import Generated.GoConfig
import Props.C19

/-
  C19 on the code as it is written: `config.postprocess`, the `Config` struct and the defaults of
  `parse`, translated from config/config.go on every run (`Generated/GoConfig.lean`), agree with
  the hand-written model the C19 theorems are about — on every decoded configuration, with the
  sizes in wrapping 64-bit arithmetic.  A bound dropped from the Go code, a changed order of the
  checks, another default or another unit conversion breaks one of these theorems.
-/

namespace Gen19
open Config

def ofRaw (r : Raw) : GenConfig.Config :=
  { Media_Hook := r.hook, Style_Colors_Primary := r.primary, Style_Colors_Error := r.error,
    Style_Colors_Highlight := r.highlight, Style_Colors_Code := r.code,
    Network_Context := r.context, Network_Timeout := r.timeout, Network_CacheSize := r.cacheSize }

def ofParsed (p : Parsed) : GenConfig.Config :=
  { Media_Hook := p.hook, Style_Colors_Primary := p.colors.primary, Style_Colors_Error := p.colors.error,
    Style_Colors_Highlight := p.colors.highlight, Style_Colors_Code := p.colors.code,
    Network_Context := p.context, Network_Timeout := p.timeoutNanos, Network_CacheSize := p.cacheSize }

/-- The key a diagnostic names, as in the Go messages. -/
def key : Diag → String
  | .primary => "style.colors.primary"
  | .error => "style.colors.error"
  | .highlight => "style.colors.highlight"
  | .code => "style.colors.code"
  | .hook => "media.hook"
  | .context => "network.preload_amount"
  | .timeout => "network.timeout_seconds"
  | .cacheSize => "network.cache_size"

theorem wrap64_eq (x : Int) : Go.wrap64 x = Config.wrap64 x := rfl

/-- A check of the first kind (a colour is converted or the key is reported), on both sides at
    once: `f` carries the model's verdict over to the translated code's. -/
theorem colour_step {α β : Type} (f : α → β) (o : Option Str) {e' : β} {k' : Str → β} {e : α}
    {k : Str → α} (he : e' = f e) (hk : ∀ v, k' v = f (k v)) :
    (match o with | none => e' | some v => k' v) = f (match o with | none => e | some v => k v) := by
  cases o with
  | none => exact he
  | some v => exact hk v

/-- A check of the second kind (a test on a number): the Go code tests `decide c' = true`, the
    model `c`. -/
theorem check_step {α β : Type} (f : α → β) {c c' : Prop} [Decidable c] [Decidable c'] (hc : c' ↔ c)
    {a b : α} {a' b' : β} (ha : a' = f a) (hb : b' = f b) :
    (if decide c' = true then a' else b') = f (if c then a else b) := by
  by_cases h : c
  · rw [if_pos h, if_pos (decide_eq_true (hc.2 h)), ha]
  · rw [if_neg h, if_neg (fun h' => h (hc.1 (of_decide_eq_true h'))), hb]

theorem len_eq_zero_iff {α : Type} (l : List α) : Go.len l = 0 ↔ l.isEmpty = true := by
  cases l <;> simp [Go.len] <;> omega

/-- The translated `postprocess` is the modelled one: same verdict, same key, same result.
    Check by check; the `rfl`s are the keys the two sides name at that check. -/
theorem postprocess_eq (r : Raw) :
    GenConfig.postprocess hexToAnsi (ofRaw r) =
      match postprocess r with
      | .error d => .error (key d)
      | .ok p => .ok (ofParsed p) := by
  let f : Except Diag Parsed → Except String GenConfig.Config := fun x =>
    match x with
    | .error d => .error (key d)
    | .ok p => .ok (ofParsed p)
  show _ = f _
  unfold Config.postprocess
  refine colour_step f _ rfl fun cp => ?_
  refine colour_step f _ rfl fun ce => ?_
  refine colour_step f _ rfl fun ch => ?_
  refine colour_step f _ rfl fun cc => ?_
  refine check_step f (len_eq_zero_iff r.hook) rfl ?_
  refine check_step f .rfl rfl ?_
  refine check_step f .rfl rfl ?_
  refine check_step f .rfl rfl ?_
  refine check_step f .rfl rfl ?_
  refine check_step f .rfl rfl ?_
  rfl

/-- The defaults `parse` installs are the modelled ones. -/
theorem defaults_eq : GenConfig.defaults = ofRaw defaults := by
  -- unfolded, the two records are the same text; a bare `rfl` evaluates the string literals
  dsimp only [GenConfig.defaults, ofRaw, defaults, Go.str]

/-- C19 (2) on the translated code: whatever the Go `postprocess` accepts is safe to run with —
    and the duration it leaves in the struct is the configured number of seconds, not wrapped. -/
theorem generated_accepted_safe (r : Raw) (c : GenConfig.Config)
    (h : GenConfig.postprocess hexToAnsi (ofRaw r) = .ok c) :
    ∃ p, postprocess r = .ok p ∧ Safe p ∧ c = ofParsed p ∧
      c.Network_Timeout = r.timeout * 1000000000 ∧ 0 ≤ c.Network_Timeout ∧
      0 ≤ c.Network_Context ∧ c.Network_Context ≤ 2147483647 ∧ 1 ≤ c.Network_CacheSize ∧
      c.Media_Hook ≠ [] := by
  rw [postprocess_eq] at h
  cases hp : postprocess r with
  | error d => rw [hp] at h; cases h
  | ok p =>
    rw [hp] at h
    obtain rfl : ofParsed p = c := Except.ok.inj h
    obtain ⟨hhook, h3, h1, -, h5, -⟩ := postprocess_safe hp
    obtain ⟨h0, -, ht⟩ := C19.accepted_timeout_not_wrapped r p hp
    exact ⟨p, rfl, postprocess_safe hp, rfl, ht, h0, h1, h5, h3, hhook⟩

/-- The translated code rejects exactly what the model rejects, naming the same key. -/
theorem generated_rejects_iff (r : Raw) (k : String) :
    GenConfig.postprocess hexToAnsi (ofRaw r) = .error k ↔
      ∃ d, postprocess r = .error d ∧ key d = k := by
  rw [postprocess_eq]
  cases postprocess r <;> simp

/-- The defaults of the Go code are accepted by the Go code. -/
theorem generated_defaults_accepted :
    ∃ c, GenConfig.postprocess hexToAnsi GenConfig.defaults = .ok c := by
  obtain ⟨p, hp, _⟩ := C19.defaults_accepted
  refine ⟨ofParsed p, ?_⟩
  rw [defaults_eq, postprocess_eq, hp]

end Gen19
