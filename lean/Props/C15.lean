import Model
import Proofs.WrapWidth
import Proofs.C15

/-
  C15 — rendered markup fits the requested width and depends only on content and width.
  The width bound on the rendered string (`linesWithin`) is in Props/C13s.lean.
-/

namespace C15
open Str Ansi Markup

/-- Every renderer ends with a whole-document `Wrap` followed by a trim: the result is the
    trimmed join of lines of at most `w` matches each (for every input and `w ≥ 1`). -/
def FitsShape (trimSet : Char → Bool) (w : Int) (out : Str) : Prop :=
  ∃ lines : List (List RawCell),
    (∀ l ∈ lines, (l.length : Int) ≤ w ∧ ∀ m ∈ l, m.letter ≠ '\n') ∧
    out = trim trimSet (joinNL (lines.map collapse))

theorem trim_wrap_fits (trimSet : Char → Bool) (text : Str) (w : Int) (hw : 1 ≤ w) :
    FitsShape trimSet w (trim trimSet (Ansi.wrap text w)) :=
  ⟨wrapLines (expand text) w,
    fun l hl => ⟨WrapP.wrap_width _ w hw l hl, WrapP.wrap_lines_no_newline _ w l hl⟩, rfl⟩

theorem html_fits (c : Colors) (nodes : List Dom.Node) (w : Int) (hw : 1 ≤ w) :
    FitsShape isSpNl w (htmlR c nodes w) := by
  rw [C15P.htmlR_eq]; exact trim_wrap_fits isSpNl _ w hw

theorem gemtext_fits (c : Colors) (lines : List Str) (w : Int) (hw : 1 ≤ w) :
    FitsShape isNl w (gemR c lines w) := by
  rw [C15P.gemR_eq]; exact trim_wrap_fits isNl _ w hw

theorem plaintext_fits (c : Colors) (text : Str) (w : Int) (hw : 1 ≤ w) :
    FitsShape isNl w (plainR c text w) := by
  rw [C15P.plainR_eq]; exact trim_wrap_fits isNl _ w hw

/-- Trimming at both ends of a join of *any* lines only removes whole leading/trailing lines and
    leading/trailing characters: every line of the trimmed text is a contiguous piece (infix) of
    one of the lines, or empty.  The disjunct `l' = []` has to stand outside the existential: for
    `ls = []` the trimmed text still has the line `[]` and there is no `l ∈ ls`
    (`trim_lines_infix_original_false`).  The hypothesis `_hnl` is not needed. -/
theorem trim_lines_infix (trimSet : Char → Bool) (ls : List Str) (_hnl : ∀ l ∈ ls, '\n' ∉ l) :
    ∀ l' ∈ splitNL (trim trimSet (joinNL ls)), (∃ l ∈ ls, l' <:+: l) ∨ l' = [] :=
  C15P.trim_lines_infix trimSet ls

/-- With the disjunct under the binder (`∃ l ∈ ls, (l' <:+: l ∨ l' = [])`), for a non-empty list
    of lines. -/
theorem trim_lines_infix_of_ne (trimSet : Char → Bool) (ls : List Str) (hne : ls ≠ [])
    (_hnl : ∀ l ∈ ls, '\n' ∉ l) :
    ∀ l' ∈ splitNL (trim trimSet (joinNL ls)), ∃ l ∈ ls, l' <:+: l ∨ l' = [] := by
  intro l' hl'
  rcases C15P.trim_lines_infix trimSet ls l' hl' with ⟨l, hl, hi⟩ | h
  · exact ⟨l, hl, Or.inl hi⟩
  · cases ls with
    | nil => exact absurd rfl hne
    | cons l ls => exact ⟨l, by simp, Or.inr h⟩

/-- That form fails at `ls = []`: `splitNL (trim p (joinNL [])) = [[]]`. -/
theorem trim_lines_infix_original_false :
    ¬ ∀ (trimSet : Char → Bool) (ls : List Str) (_ : ∀ l ∈ ls, '\n' ∉ l),
        ∀ l' ∈ splitNL (trim trimSet (joinNL ls)), ∃ l ∈ ls, l' <:+: l ∨ l' = [] := by
  intro h
  obtain ⟨l, hl, _⟩ := h isNl [] (by simp) [] (by decide)
  simp at hl

def Inv {Tree : Type} (R : Tree → Int → Str) (m : M Tree) : Prop := m.cached = R m.tree m.cachedWidth

theorem inv_new {Tree : Type} (R : Tree → Int → Str) (t : Tree) : Inv R (new R t) ∧ (new R t).tree = t :=
  C15P.inv_new R t

theorem inv_render {Tree : Type} (R : Tree → Int → Str) (m : M Tree) (w : Int) (h : Inv R m) :
    Inv R (render R m w).2 ∧ (render R m w).2.tree = m.tree ∧ (render R m w).1 = R m.tree w :=
  C15P.inv_render R m w h

/-- Rendering depends only on content and width: after *any* sequence of widths, rendering
    at `w` gives the pure renderer's text for `w`. -/
theorem render_history_free {Tree : Type} (R : Tree → Int → Str) (t : Tree) (ws : List Int) (w : Int) :
    (render R (renderSeq R (new R t) ws).2 w).1 = R t w :=
  C15P.render_history_free R t ws w

/-- Every output of a sequence of renderings is the pure renderer's. -/
theorem renderSeq_pure {Tree : Type} (R : Tree → Int → Str) (t : Tree) (ws : List Int) :
    (renderSeq R (new R t) ws).1 = ws.map (R t) :=
  C15P.renderSeq_pure R t ws

/-- A renderer whose text shows the width, to see `renderSeq` compute. -/
def demoR (t : Nat) (w : Int) : Str := [Char.ofNat (t + w.toNat)]

example : (renderSeq demoR (new demoR 60) [80, 5, 80]).1 =
    [[Char.ofNat 140], [Char.ofNat 65], [Char.ofNat 140]] := by
  decide

end C15
