import Model
import Proofs.C19

/-
  C19 — a configuration is either rejected at startup or safe to run with.
-/

namespace C19
open Config

def isHex (c : Char) : Bool :=
  ('0' ≤ c ∧ c ≤ '9') || ('a' ≤ c ∧ c ≤ 'f') || ('A' ≤ c ∧ c ≤ 'F')

/-- `isHex` decides `Config.IsHex`, which the lemmas of Proofs/C19.lean are stated about. -/
theorem isHex_iff (c : Char) : isHex c = true ↔ IsHex c := by simp [isHex, IsHex, or_assoc]

/-- `hexToAnsi` accepts exactly `#` followed by six hexadecimal digits. -/
theorem hexToAnsi_accepts_iff (text : Str) :
    (hexToAnsi text).isSome ↔ ∃ a b c d e f, text = ['#', a, b, c, d, e, f] ∧
      isHex a ∧ isHex b ∧ isHex c ∧ isHex d ∧ isHex e ∧ isHex f := by
  simp only [isHex_iff]
  constructor
  · intro h
    obtain ⟨out, hout⟩ := Option.isSome_iff_exists.mp h
    obtain ⟨a, b, c, d, e, f, r, g, bl, rfl, hr, hg, hb, -⟩ := hexToAnsi_some_inv hout
    exact ⟨a, b, c, d, e, f, rfl, (parseHexPair_isHex hr).1, (parseHexPair_isHex hr).2,
      (parseHexPair_isHex hg).1, (parseHexPair_isHex hg).2,
      (parseHexPair_isHex hb).1, (parseHexPair_isHex hb).2⟩
  · rintro ⟨a, b, c, d, e, f, rfl, ha, hb, hc, hd, he, hf⟩
    exact hexToAnsi_of_hex ha hb hc hd he hf

/-- What `hexToAnsi` returns is the three byte values in decimal, each between 0 and 255. -/
theorem hexToAnsi_value (text out : Str) (h : hexToAnsi text = some out) :
    ∃ r g b : Nat, r ≤ 255 ∧ g ≤ 255 ∧ b ≤ 255 ∧
      out = Style.itoa r ++ ';' :: Style.itoa g ++ ';' :: Style.itoa b :=
  hexToAnsi_isColor h

/-- The decimal rendering of a number is non-empty and consists of digits only — so a colour is a
    well-formed SGR parameter tail. -/
theorem itoa_digits (n : Nat) : (Style.itoa n) ≠ [] ∧ ∀ c ∈ Style.itoa n, c.isDigit = true := by
  refine ⟨fun h => ?_, itoa_isDigit n⟩
  have := @Nat.length_toDigits_pos 10 n
  rw [show Nat.toDigits 10 n = [] from h] at this
  exact Nat.lt_irrefl _ this

/-- An accepted configuration is safe: non-empty hook, cache size ≥ 1, non-negative preload
    amount and timeout, the timeout converted to nanoseconds without `int64` wrap-around,
    well-formed colours with components 0..255. -/
theorem accepted_safe (r : Raw) (p : Parsed) (h : postprocess r = .ok p) : Safe p :=
  postprocess_safe h

/-- A rejected configuration names the offending key, and that key is indeed invalid. -/
theorem rejected_names_key (r : Raw) (d : Diag) (h : postprocess r = .error d) :
    match d with
    | .primary => hexToAnsi r.primary = none
    | .error => hexToAnsi r.error = none
    | .highlight => hexToAnsi r.highlight = none
    | .code => hexToAnsi r.code = none
    | .hook => r.hook = []
    | .context => r.context < 0 ∨ r.context > maxPreload
    | .timeout => r.timeout < 0 ∨ r.timeout > maxSeconds
    | .cacheSize => r.cacheSize < 1 := by
  cases d <;> exact postprocess_justified h

/-- The duration handed to the network code is never negative, although it is computed in
    wrapping `int64` arithmetic: the bound `maxSeconds` on the timeout is what keeps it from
    wrapping. -/
theorem accepted_timeout_not_wrapped (r : Raw) (p : Parsed) (h : postprocess r = .ok p) :
    0 ≤ p.timeoutNanos ∧ p.timeoutNanos < 2 ^ 63 ∧ p.timeoutNanos = r.timeout * 1000000000 := by
  obtain ⟨_, _, _, _, _, _, _, _, _, _, h2, _, h4, _, rfl⟩ := postprocess_justified h
  have hw := wrap64_seconds h2 h4
  show 0 ≤ wrap64 (r.timeout * 1000000000) ∧ wrap64 (r.timeout * 1000000000) < 2 ^ 63 ∧
    wrap64 (r.timeout * 1000000000) = r.timeout * 1000000000
  rw [hw]
  unfold maxSeconds at h4
  omega

/-- One second more than `maxSeconds` wraps to a negative duration. -/
example : wrap64 ((maxSeconds + 1) * 1000000000) < 0 := by decide

/-- The arithmetic done on the preload amount (`Context + 1`, `-Context - 1`, the conversions to
    `uint` and back to `int`) stays inside `int64` — and inside `int32`'s unsigned range. -/
theorem accepted_preload_arithmetic_exact (r : Raw) (p : Parsed) (h : postprocess r = .ok p) :
    wrap64 (p.context + 1) = p.context + 1 ∧ wrap64 (-p.context - 1) = -p.context - 1 ∧
    0 < p.context + 1 ∧ p.context + 1 ≤ 2 ^ 31 := by
  obtain ⟨_, _, _, h1, h5, _⟩ := postprocess_safe h
  unfold maxPreload at h5
  unfold wrap64
  omega

/-- Conversely every configuration with valid values is accepted, unchanged but for the colours. -/
theorem valid_accepted (r : Raw)
    (hc : (hexToAnsi r.primary).isSome ∧ (hexToAnsi r.error).isSome ∧ (hexToAnsi r.highlight).isSome ∧ (hexToAnsi r.code).isSome)
    (hh : r.hook ≠ []) (h1 : 0 ≤ r.context) (h2 : 0 ≤ r.timeout) (h3 : 1 ≤ r.cacheSize)
    (h4 : r.timeout ≤ maxSeconds) (h5 : r.context ≤ maxPreload) :
    ∃ p, postprocess r = .ok p ∧ p.hook = r.hook ∧ p.context = r.context ∧
      p.timeoutSeconds = r.timeout ∧ p.cacheSize = r.cacheSize := by
  obtain ⟨h1', h2', h3', h4'⟩ := hc
  obtain ⟨cp, hp⟩ := Option.isSome_iff_exists.mp h1'
  obtain ⟨ce, he⟩ := Option.isSome_iff_exists.mp h2'
  obtain ⟨ch, hh'⟩ := Option.isSome_iff_exists.mp h3'
  obtain ⟨cc, hc'⟩ := Option.isSome_iff_exists.mp h4'
  refine ⟨⟨r.hook, ⟨cp, ce, ch, cc⟩, r.context, r.timeout, r.cacheSize, wrap64 (r.timeout * 1000000000)⟩,
    ?_, rfl, rfl, rfl, rfl⟩
  unfold postprocess
  rw [hp, he, hh', hc']
  dsimp only
  rw [if_neg (mt List.isEmpty_iff.1 hh), if_neg (Int.not_lt.2 h1), if_neg (Int.not_lt.2 h5),
    if_neg (Int.not_lt.2 h2), if_neg (Int.not_lt.2 h3), if_neg (Int.not_lt.2 h4)]

/-- The built-in defaults are accepted (and hence safe). -/
theorem defaults_accepted : ∃ p, postprocess defaults = .ok p ∧ Safe p := by
  have h : (postprocess defaults).isOk = true := by decide +kernel
  cases hp : postprocess defaults with
  | error d => rw [hp] at h; cases h
  | ok p => exact ⟨p, rfl, postprocess_safe hp⟩

/-- Non-vacuity: the documented example colour. -/
example : hexToAnsi "#fcba03".toList = some "252;186;3".toList := by
  decide +kernel

end C19
