import Proofs.C20
import Generated.Facts

/-
  The substitution loop of `ui.openExternally`, read from the source on every run
  (`Generated.hookSubstitutions`, `Generated.hookLoop`), is the one `Hook.build` models: a copy
  of the configured hook, index 0 skipped, an argument replaced only when it *is* one of four
  literals, by the link or a component of the link's media type, and the link goes to standard
  input exactly when no `%url` case fired.
-/

namespace Facts20

theorem substitutions_as_documented :
    Generated.hookSubstitutions =
      [("%url", ["command[i]=link", "foundPercentU=true"]),
       ("%mimetype", ["command[i]=mediaType.Essence"]),
       ("%subtype", ["command[i]=mediaType.Subtype"]),
       ("%supertype", ["command[i]=mediaType.Supertype"])] := rfl

/-- The loop works on a copy of the configured hook, never touches index 0, and feeds the link
    to standard input iff no `%url` argument was seen. -/
theorem loop_shape :
    Generated.hookLoop =
      ["command:=make([]string, len(config.Parsed.Media.Hook))",
       "copy(command, config.Parsed.Media.Hook)",
       "foundPercentU:=false",
       "range i, field := command",
       "if i==0 { continue }",
       "if !foundPercentU { cmd.Stdin=strings.NewReader(link) }"] := rfl

theorem model_implements_table (link : Str) (mt : Mime.MediaType) :
    Hook.substitute link mt "%url".toList = link ∧
    Hook.substitute link mt "%mimetype".toList = mt.essence ∧
    Hook.substitute link mt "%subtype".toList = mt.subtype ∧
    Hook.substitute link mt "%supertype".toList = mt.supertype ∧
    (∀ f : Str, f ∉ (Generated.hookSubstitutions.map fun p => p.1.toList) → Hook.substitute link mt f = f) := by
  refine ⟨?_, ?_, ?_, ?_, ?_⟩
  iterate 4 simp only [Hook.substitute, String.toList_inj, String.reduceEq, ↓reduceIte]
  intro f hf
  simp only [Generated.hookSubstitutions, List.map, List.mem_cons, List.not_mem_nil, or_false, not_or] at hf
  exact Hook.substitute_of_not_placeholder link mt f hf.1 hf.2.1 hf.2.2.1 hf.2.2.2

end Facts20
