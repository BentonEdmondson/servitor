import Model
import Generated.Facts
import Props.Facts04

namespace Facts04

/-- The bytes the source writes are the model's `request`, for every URL and accept string:
    instantiating the extracted concatenation gives exactly `Jtp.request`. -/
theorem template_is_request (uri host accept : Str) :
    instantiate uri host accept Generated.requestTemplate = Jtp.request uri host accept := by
  rw [template_pieces]
  unfold Jtp.request
  simp only [instantiate, String.reduceEq, if_false, if_true]
  -- literals as character lists: `String.toList` on a literal is slow to evaluate
  repeat rewrite [String.toList_ofList]
  simp only [List.append_assoc, List.cons_append, List.nil_append, List.append_nil]

end Facts04
