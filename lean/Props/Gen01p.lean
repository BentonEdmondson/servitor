import Model.Present
import Model.GoItem
import Generated.GoPresent
import Props.Gen12
import Props.Gen13
import Props.Gen14
import Props.Gen20
import Proofs.Gen16

/-
  The tie by translation for C01 / C14 at item level: `Generated/GoPresent.lean` is produced
  by `extract/go2lean21.go` on every run from pub/post.go, pub/actor.go, pub/activity.go,
  pub/failure.go (`String`, `Preview`, `Name` and the unexported `header`, `center`, `supplement`,
  `footer` they call), pub/collection.go (`Size`), style/style.go (`Problem`), ansi/ansi.go
  (`Scrub`).  The theorems below say that each translated function computes what the hand-written
  presentation model (`Model/Present.lean`) computes, and that it does not panic, for every
  content of the fields, every width and every configured colour.

  The translated code calls the translated ansi.go and style.go; `expand` is instantiated with the
  model's scanner (`Gen13.goExpand`), as in `Props/Gen13.lean`.

  Correspondence of records (`PostCorr`, `ActorCorr`).  The translated structs keep a value and
  its error as two fields and an error as (is-absent, text); the model has one `Fld` per pair:
  `fld v e` is `.ok v` for a nil error, `.absent text` / `.err text` otherwise — the value next to a
  non-nil error does not occur on the model's side, so the theorems say in particular that it is
  never shown.  A body is an `object.Markup` (any renderer) on the translated side and a `Body`
  (which renderer, on what) on the model's: they correspond when they render alike at every width.
  The names of creators and recipients are strings on the model's side: they correspond when
  `Name()` of the translated item returns them.  Three facts the constructors establish are
  hypotheses of the correspondence, because the translated code panics without them: a nil
  `bodyErr` / `commentsErr` / `postsErr` / `actorErr` comes with a non-nil body / collection /
  actor, a `Failure` holds a non-nil error (`NewFailure` panics otherwise), and the kind of an
  activity is one of the four `NewActivityFromObject` lets through.
-/

namespace Gen01p
open Str Ansi Present GenPresent Gen13

variable {Time : Type}

def fld {α : Type} (v : α) (e : Go.ErrorV) : Fld α :=
  match e with
  | none => .ok v
  | some x => if x.absent then .absent x.text else .err x.text

structure BodyCorr (c : Colors) (m : Option Go.Markup) (e : Go.ErrorV) (b : Fld Body) : Prop where
  err : ∀ x, e = some x → b = (if x.absent then .absent x.text else .err x.text)
  ok : e = none → ∃ mk bd, m = some mk ∧ b = .ok bd ∧ ∀ w, mk.render w = bd.render c w

/-- `comments` / `commentsErr` and the collection's `Size()`. -/
def commentsV (cm : Option Collection) (e : Go.ErrorV) : Comments :=
  match e with
  | some x => if x.absent then .disabled else .enabledErr
  | none => match cm with
    | some col => .size (fld (Style.itoa col.size) col.sizeErr)
    | none => .enabledErr

/-- `posts` / `postsErr` and the collection's `Size()`. -/
def postsV (cm : Option Collection) (e : Go.ErrorV) : Fld (Fld Str) :=
  match e with
  | some x => if x.absent then .absent x.text else .err x.text
  | none => match cm with
    | some col => .ok (fld (Style.itoa col.size) col.sizeErr)
    | none => .ok (.absent [])

def NamesAre (c : Colors) (T : Go.TimeLib Time) (E : Obj.Err → Str) : List (Tangible Time) → List Str → Prop
  | [], [] => True
  | t :: ts, n :: ns => Tangible.Name c goExpand T E t = .ok n ∧ NamesAre c T E ts ns
  | _, _ => False

/-- `PostCorr` on the Fields of a translated post, given one by one in the order of `Post.mk`, so that
    the lemmas about a method can name the fields the method reads. -/
structure PostCorrF (c : Colors) (T : Go.TimeLib Time) (E : Obj.Err → Str) (v : PostV) (kind title : Str) (titleErr : Go.ErrorV)
    (body : Option Go.Markup) (bodyLinks : List Str) (bodyErr : Go.ErrorV) (created : Time) (createdErr parentErr : Go.ErrorV)
    (attachments : List GenLink.Link) (attachmentsErr : Go.ErrorV) (creators recipients : List (Tangible Time))
    (comments : Option Collection) (commentsErr : Go.ErrorV) : Prop where
  hKind : v.kind = kind
  hTitle : v.title = fld title titleErr
  hBody : BodyCorr c body bodyErr v.body
  hBodyLinks : v.bodyLinks = bodyLinks
  hIsReply : v.isReply = !(Go.isAbsent parentErr)
  hCreators : NamesAre c T E creators v.creators
  hRecipients : NamesAre c T E recipients v.recipients
  hCreated : v.created = fld (T.ago created) createdErr
  hAgoZero : v.agoZero = T.ago created
  hAttachments : v.attachments = fld (attachments.map (Gen12.linkV E)) attachmentsErr
  hComments : v.comments = commentsV comments commentsErr
  hCommentsNonNil : commentsErr = none → comments.isSome

def PostCorr (c : Colors) (T : Go.TimeLib Time) (E : Obj.Err → Str) (p : Post Time) (v : PostV) : Prop :=
  match p with
  | .mk kind title titleErr body bodyLinks bodyErr created createdErr parentErr attachments attachmentsErr creators recipients comments commentsErr =>
    PostCorrF c T E v kind title titleErr body bodyLinks bodyErr created createdErr parentErr attachments attachmentsErr creators recipients comments commentsErr

structure ActorCorr (c : Colors) (T : Go.TimeLib Time) (a : Actor Time) (v : ActorV) : Prop where
  kind : v.kind = a.kind
  name : v.name = fld a.name a.nameErr
  handle : v.handle = fld a.handle a.handleErr
  host : v.host = a.id.map (·.Host)
  bio : BodyCorr c a.bio a.bioErr v.bio
  joined : v.joined = fld (T.format a.joined "2 Jan 2006".toList) a.joinedErr
  posts : v.posts = postsV a.posts a.postsErr
  postsNonNil : a.postsErr = none → a.posts.isSome

/-- The correspondence is total: every translated post whose nil errors come with a body and a
    collection (as the constructor leaves them) has a post of the model, for any body that renders
    alike and the names `Name()` returns. -/
theorem postCorr_exists (c : Colors) (T : Go.TimeLib Time) (E : Obj.Err → Str) (kind title : Str) (titleErr : Go.ErrorV)
    (body : Option Go.Markup) (bodyLinks : List Str) (bodyErr : Go.ErrorV) (created : Time) (createdErr parentErr : Go.ErrorV)
    (attachments : List GenLink.Link) (attachmentsErr : Go.ErrorV) (creators recipients : List (Tangible Time))
    (comments : Option Collection) (commentsErr : Go.ErrorV)
    (b : Fld Body) (hb : BodyCorr c body bodyErr b) (cn rn : List Str)
    (hcn : NamesAre c T E creators cn) (hrn : NamesAre c T E recipients rn) (hcm : commentsErr = none → comments.isSome) :
    ∃ v, PostCorrF c T E v kind title titleErr body bodyLinks bodyErr created createdErr parentErr attachments attachmentsErr
      creators recipients comments commentsErr :=
  ⟨{ kind := kind, title := fld title titleErr, body := b, bodyLinks := bodyLinks, isReply := !(Go.isAbsent parentErr),
     creators := cn, recipients := rn, created := fld (T.ago created) createdErr, agoZero := T.ago created,
     attachments := fld (attachments.map (Gen12.linkV E)) attachmentsErr, comments := commentsV comments commentsErr },
   { hKind := rfl, hTitle := rfl, hBody := hb, hBodyLinks := rfl, hIsReply := rfl, hCreators := hcn, hRecipients := hrn,
     hCreated := rfl, hAgoZero := rfl, hAttachments := rfl, hComments := rfl, hCommentsNonNil := hcm }⟩

/-- The same for actors: every translated actor whose nil `postsErr` comes with a collection has an
    actor of the model, for any bio that renders alike. -/
theorem actorCorr_exists (c : Colors) (T : Go.TimeLib Time) (a : Actor Time) (b : Fld Body) (hb : BodyCorr c a.bio a.bioErr b)
    (hp : a.postsErr = none → a.posts.isSome) : ∃ v, ActorCorr c T a v :=
  ⟨{ kind := a.kind, name := fld a.name a.nameErr, handle := fld a.handle a.handleErr, host := a.id.map (·.Host), bio := b,
     joined := fld (T.format a.joined "2 Jan 2006".toList) a.joinedErr, posts := postsV a.posts a.postsErr },
   { kind := rfl, name := rfl, handle := rfl, host := rfl, bio := hb, joined := rfl, posts := rfl, postsNonNil := hp }⟩

theorem str_sp : Go.str " " = [' '] := Gen16.str_sp
theorem str_at : Go.str "@" = ['@'] := by rw [Go.str, String.toList_ofList]
theorem str_nil : Go.str "" = [] := Gen16.str_empty
theorem str_nl : Go.str "\n" = ['\n'] := Gen16.str_nl
theorem str_nlnl : Go.str "\n\n" = ['\n', '\n'] := by rw [Go.str, String.toList_ofList]
theorem str_2sp : Go.str "  " = [' ', ' '] := by rw [Go.str, String.toList_ofList]
theorem str_ell : Go.str "…" = ['…'] := by rw [Go.str, String.toList_ofList]

theorem mapDrop_filter (p : Char → Bool) (s : Str) :
    Go.mapDrop (fun x => if p x then none else some x) s = s.filter (fun x => !p x) := by
  induction s with
  | nil => rfl
  | cons a s ih =>
    rw [Go.mapDrop] at ih ⊢
    rw [List.filterMap_cons, List.filter_cons, ih]
    cases p a <;> rfl

theorem scrub_eq (c : Colors) (ex : Str → List Go.Match) (T : Go.TimeLib Time) (E : Obj.Err → Str) (t : Str) :
    Scrub c ex T E t = .ok (Ansi.scrub t) := by
  simp only [Scrub, Ansi.scrub, mapDrop_filter, Go.Strings.replaceChar, ne_eq, decide_not, Bool.not_and, Bool.not_not]
  rfl

/-- The translated `style.Problem` of a non-nil error is the model's `problem` of its text. -/
theorem problem_eq (c : Colors) (ex : Str → List Go.Match) (T : Go.TimeLib Time) (E : Obj.Err → Str) (x : Go.ErrV) :
    Problem c ex T E (some x) = .ok (problem c x.text) := by
  simp only [Problem, Go.errorText, scrub_eq, Gen14.red_eq, Gen14.bind_ok, problem]

/-- `issue.Error()` on a nil `error`. -/
theorem problem_nil (c : Colors) (ex : Str → List Go.Match) (T : Go.TimeLib Time) (E : Obj.Err → Str) :
    Problem c ex T E none = .error .nilDeref := by
  rfl

/-- The layout string the source hands to `Format` (day of the month without padding,
    abbreviated month name, year in four digits). -/
theorem layouts_eq : GenPresent.layouts = ["2 Jan 2006"] := by decide

theorem failure_name_eq (c : Colors) (T : Go.TimeLib Time) (E : Obj.Err → Str) (x : Go.ErrV) :
    Failure.Name c goExpand T E ⟨some x⟩ = .ok (failureName c x.text) := by
  simp only [Failure.Name, problem_eq, failureName]

theorem failure_preview_eq (c : Colors) (T : Go.TimeLib Time) (E : Obj.Err → Str) (x : Go.ErrV) (w : Int) :
    Failure.Preview c goExpand T E ⟨some x⟩ w = .ok (failureString c x.text w) := by
  simp only [Failure.Preview, failure_name_eq, Gen13.wrap_eq, Gen14.bind_ok, failureString, failureName]

theorem failure_string_eq (c : Colors) (T : Go.TimeLib Time) (E : Obj.Err → Str) (x : Go.ErrV) (w : Int) :
    Failure.String c goExpand T E ⟨some x⟩ w = .ok (failureString c x.text w) := by
  simp only [Failure.String, failure_preview_eq]

/-- A `Failure` with a nil error (which `NewFailure` refuses to build) would panic when shown. -/
theorem failure_nil_panics (c : Colors) (T : Go.TimeLib Time) (E : Obj.Err → Str) (w : Int) :
    Failure.String c goExpand T E ⟨none⟩ w = .error .nilDeref := by
  rfl

theorem itoa_eq_one (n : Nat) : Style.itoa n = ['1'] ↔ n = 1 := by
  refine ⟨fun h => ?_, fun h => h ▸ rfl⟩
  have h1 : Nat.ofDigitChars 10 (Style.itoa n) 0 = n := Nat.ofDigitChars_ten_toDigits
  rw [h] at h1
  exact h1.symm

/-- The loop of `header` over the creators / the recipients, from any state: it appends their names,
    separated by commas (`n` is the length of the whole slice, `i0` the index reached). -/
theorem names_loop (c : Colors) (T : Go.TimeLib Time) (E : Obj.Err → Str) (n : Int) :
    ∀ (ts : List (Tangible Time)) (ns : List Str) (i0 : Nat) (out : Str),
      NamesAre c T E ts ns → ((i0 : Int) + ts.length = n) →
      (forIn ((ts.zipIdx i0).map fun q => ((q.2 : Int), q.1)) out (fun (x : Int × Tangible Time) (s : Str) => do
          let a ← Tangible.Name c goExpand T E x.snd
          let b ← GenStyle.Color c a
          if decide (x.fst ≠ n - 1) = true then pure (ForInStep.yield (s ++ b ++ Go.str ", "))
          else pure (ForInStep.yield (s ++ b))) : Except Panic Str) = .ok (out ++ joinComma c ns) := by
  intro ts
  induction ts with
  | nil =>
    intro ns i0 out h _
    cases ns with
    | nil => exact congrArg Except.ok (List.append_nil out).symm
    | cons m ms => exact h.elim
  | cons t ts ih =>
    intro ns i0 out h hn
    cases ns with
    | nil => exact h.elim
    | cons m ms =>
      obtain ⟨h1, h2⟩ := h
      simp only [List.zipIdx_cons, List.map_cons, List.forIn_cons, h1, Gen14.color_eq, Gen14.bind_ok]
      cases ts with
      | nil =>
        cases ms with
        | cons _ _ => exact h2.elim
        | nil =>
          have hi : (i0 : Int) = n - 1 := by simp only [List.length_cons, List.length_nil] at hn; omega
          simp only [hi, ne_eq, not_true_eq_false, decide_false, if_false, Bool.false_eq_true, List.zipIdx_nil, List.map_nil,
            List.forIn_nil, joinComma]
          rfl
      | cons t2 ts2 =>
        cases ms with
        | nil => exact h2.elim
        | cons m2 ms2 =>
          have hi : ¬ (i0 : Int) = n - 1 := by simp only [List.length_cons] at hn; omega
          simp only [hi, ne_eq, not_false_eq_true, decide_true, if_true]
          have := ih (m2 :: ms2) (i0 + 1) (out ++ Style.color c m ++ Go.str ", ") h2 (by simp only [List.length_cons] at hn ⊢; omega)
          -- `simp` above has rewritten the body of the loop that remains as well
          simp only [Gen14.color_eq, Gen14.bind_ok, ne_eq] at this
          refine this.trans ?_
          simp only [joinComma, List.append_assoc]
          rfl

theorem namesAre_isEmpty (c : Colors) (T : Go.TimeLib Time) (E : Obj.Err → Str) :
    ∀ (ts : List (Tangible Time)) (ns : List Str), NamesAre c T E ts ns → ns.isEmpty = !decide (Go.len ts > 0)
  | [], [], _ => rfl
  | [], _ :: _, h => h.elim
  | _ :: _, [], h => h.elim
  | t :: ts, _ :: _, _ => by
    have : Go.len (t :: ts) > 0 := by simp only [Go.len, List.length_cons]; omega
    simp only [this, decide_true, Bool.not_true, List.isEmpty_cons]

/-- A loop whose body appends the model's line for the attachment, after a newline unless it is
    the first (one step of `Gen12.acc`), appends the model's lines. -/
theorem supplement_loop_of (c : Colors) (E : Obj.Err → Str) (w : Int) (base : Nat)
    (f : Int × GenLink.Link → Str → Except Panic (ForInStep Str))
    (hf : ∀ (i : Nat) (a : GenLink.Link) (s : Str),
      f ((i : Int), a) s = .ok (.yield (Gen12.acc s (supplementLines c w base [Gen12.linkV E a] i)))) :
    ∀ (as : List GenLink.Link) (i0 : Nat) (out : Str),
      forIn ((as.zipIdx i0).map fun q => ((q.2 : Int), q.1)) out f =
        .ok (Gen12.acc out (supplementLines c w base (as.map (Gen12.linkV E)) i0)) := by
  intro as
  induction as with
  | nil => intro i0 out; rfl
  | cons a as ih =>
    intro i0 out
    simp only [List.zipIdx_cons, List.map_cons, List.forIn_cons, hf, Gen14.bind_ok, supplementLines, Gen12.acc]
    exact ih _ _

/-- `center` of a post and of an actor are the same code, on a body and its error: nothing for an
    absent body, the problem for another error, else what the body renders. -/
theorem center_eq (c : Colors) (T : Go.TimeLib Time) (E : Obj.Err → Str) {m : Option Go.Markup} {e : Go.ErrorV} {b : Fld Body}
    (h : BodyCorr c m e b) (w : Int) :
    (do if Go.isAbsent e then return (Go.str "", false)
        if e.isSome then return (← GenAnsiH.Wrap goExpand (← Problem c goExpand T E e) w, true)
        return (← Go.render m w, true) : Except Panic (Str × Bool)) =
      .ok (match (match b with
          | .absent _ => none
          | .err m => some (Ansi.wrap (problem c m) w)
          | .ok b => some (b.render c w)) with
        | some s => (s, true)
        | none => ([], false)) := by
  rcases e with _ | ⟨_ | _, x⟩
  · obtain ⟨mk, bd, rfl, rfl, hr⟩ := h.ok rfl
    simp only [Go.isAbsent, Go.render, hr, Option.isSome_none, ↓reduceIte, Bool.false_eq_true, Gen14.bind_ok]
    rfl
  · rw [h.err _ rfl]
    simp only [Go.isAbsent, problem_eq, Gen13.wrap_eq, Gen14.bind_ok, Option.isSome_some, ↓reduceIte, Bool.false_eq_true]
    rfl
  · rw [h.err _ rfl]
    rfl

section post
variable (c : Colors) (T : Go.TimeLib Time) (E : Obj.Err → Str) (v : PostV) (kind title : Str) (titleErr : Go.ErrorV)
    (body : Option Go.Markup) (bodyLinks : List Str) (bodyErr : Go.ErrorV) (created : Time) (createdErr parentErr : Go.ErrorV)
    (attachments : List GenLink.Link) (attachmentsErr : Go.ErrorV) (creators recipients : List (Tangible Time))
    (comments : Option Collection) (commentsErr : Go.ErrorV)

theorem post_name_eq
    (h : PostCorrF c T E v kind title titleErr body bodyLinks bodyErr created createdErr parentErr attachments attachmentsErr creators recipients comments commentsErr) :
    Post.Name c goExpand T E (.mk kind title titleErr body bodyLinks bodyErr created createdErr parentErr attachments attachmentsErr creators recipients comments commentsErr)
      = .ok (v.name c) := by
  unfold PostV.name
  rw [h.hTitle]
  rcases titleErr with _ | ⟨_ | _, m⟩
  · rfl
  all_goals simp only [Post.Name, Option.isSome_some, if_true, problem_eq, fld] <;> rfl

theorem post_header_eq
    (h : PostCorrF c T E v kind title titleErr body bodyLinks bodyErr created createdErr parentErr attachments attachmentsErr creators recipients comments commentsErr) (w : Int) :
    Post.header c goExpand T E (.mk kind title titleErr body bodyLinks bodyErr created createdErr parentErr attachments attachmentsErr creators recipients comments commentsErr) w
      = .ok (v.header c w) := by
  unfold PostV.header
  rw [Post.header, h.hIsReply]
  generalize Go.isAbsent parentErr = reply
  -- The join points of the `do` block (the rest of the method after each `if`, as a function of the
  -- output so far) and the pieces of the model's header; each join point appends the pieces left.
  extract_lets kWrap kAt kTo kBy t k by_ to_ at_
  have hAt : ∀ out, kAt () out = .ok (wrap (out ++ at_) w) := by
    intro out
    rcases createdErr with _ | ⟨_ | _, m⟩ <;>
      simp only [kAt, kWrap, at_, h.hCreated, h.hAgoZero, fld, Go.isAbsent, problem_eq, Gen14.color_eq, Gen13.wrap_eq,
        Gen14.bind_ok, Option.isSome_none, Option.isSome_some, Bool.not_true, Bool.not_false, Bool.and_true, Bool.and_false,
        ↓reduceIte, Bool.false_eq_true] <;> rfl
  have hTo : ∀ out, kTo () out = .ok (wrap (out ++ to_ ++ at_) w) := by
    intro out
    simp only [kTo, to_, hAt, Go.enumerate, namesAre_isEmpty c T E _ _ h.hRecipients,
      names_loop c T E (Go.len recipients) recipients v.recipients 0 _ h.hRecipients (Int.zero_add _), Gen14.bind_ok]
    cases decide (Go.len recipients > 0) <;>
      simp only [↓reduceIte, Bool.false_eq_true, Bool.not_true, Bool.not_false, List.append_nil, List.append_assoc] <;> rfl
  have hBy : ∀ out, kBy () out = .ok (wrap (out ++ by_ ++ to_ ++ at_) w) := by
    intro out
    simp only [kBy, by_, hTo, Go.enumerate, namesAre_isEmpty c T E _ _ h.hCreators,
      names_loop c T E (Go.len creators) creators v.creators 0 _ h.hCreators (Int.zero_add _), Gen14.bind_ok]
    cases decide (Go.len creators > 0) <;>
      simp only [↓reduceIte, Bool.false_eq_true, Bool.not_true, Bool.not_false, List.append_nil, List.append_assoc] <;> rfl
  rcases titleErr with _ | ⟨_ | _, m⟩ <;> cases reply <;>
    simp only [t, k, hBy, h.hTitle, h.hKind, fld, Go.isAbsent, Go.errorf, problem_eq, Gen14.bold_eq, Gen14.color_eq,
      Gen14.bind_ok, Option.isNone_none, Option.isNone_some, Bool.not_true, Bool.not_false, ↓reduceIte, Bool.false_eq_true,
      str_nil, str_nl, List.nil_append, List.append_nil] <;> rfl

/-- `Post.center(width)` = `PostV.center`: the pair (text, present) is the model's option. -/
theorem post_center_eq
    (h : PostCorrF c T E v kind title titleErr body bodyLinks bodyErr created createdErr parentErr attachments attachmentsErr creators recipients comments commentsErr) (w : Int) :
    Post.center c goExpand T E (.mk kind title titleErr body bodyLinks bodyErr created createdErr parentErr attachments attachmentsErr creators recipients comments commentsErr) w
      = .ok (match v.center c w with | some s => (s, true) | none => ([], false)) :=
  center_eq c T E h.hBody w

theorem post_supplement_eq
    (h : PostCorrF c T E v kind title titleErr body bodyLinks bodyErr created createdErr parentErr attachments attachmentsErr creators recipients comments commentsErr) (w : Int) :
    Post.supplement c goExpand T E (.mk kind title titleErr body bodyLinks bodyErr created createdErr parentErr attachments attachmentsErr creators recipients comments commentsErr) w
      = .ok (match v.supplement c w with | some s => (s, true) | none => ([], false)) := by
  unfold PostV.supplement
  rw [h.hAttachments, h.hBodyLinks]
  rcases attachmentsErr with _ | ⟨_ | _, m⟩
  · cases attachments with
    | nil => rfl
    | cons a as =>
      have hlen : ¬ (Go.len (a :: as) = 0) := by simp only [Go.len, List.length_cons]; omega
      rw [Post.supplement]
      simp only [Go.isAbsent, Option.isSome_none, hlen, decide_false, if_false, Bool.false_eq_true]
      rw [show Go.enumerate (a :: as) = ((a :: as).zipIdx 0).map fun q => ((q.2 : Int), q.1) from rfl,
        supplement_loop_of c E w bodyLinks.length _ ?_ (a :: as) 0]
      · rw [str_nil, Gen12.acc_nil _ (Gen12.supplementLines_ne c w _ _ 0)]
        rfl
      · intro i a s
        have hnum : ((Go.len bodyLinks + (i : Int)) + 1) = ((bodyLinks.length + i + 1 : Nat) : Int) := by
          simp only [Go.len]; omega
        by_cases ho : s = [] <;> cases hA : GenLink.Alt a <;>
          simp only [ho, hA, hnum, str_nil, str_nl, supplementLines, Gen12.acc, Gen12.altText_eq, Go.ofR, Go.ofObjErr,
            Option.isSome_some, Option.isSome_none, problem_eq, Gen13.wrap_eq, Gen14.linkBlock_eq, Gen14.bind_ok, ne_eq,
            not_true_eq_false, not_false_eq_true, decide_true, decide_false, ↓reduceIte, Bool.false_eq_true] <;> rfl
  · simp only [Post.supplement, Go.isAbsent, Option.isSome_some, ↓reduceIte, Bool.false_eq_true,
      Go.errorf, str_nil, List.append_nil, problem_eq, Gen13.wrap_eq, Gen14.bind_ok, fld]
    rfl
  · rfl

theorem post_footer_eq
    (h : PostCorrF c T E v kind title titleErr body bodyLinks bodyErr created createdErr parentErr attachments attachmentsErr creators recipients comments commentsErr) (w : Int) :
    Post.footer c goExpand T E (.mk kind title titleErr body bodyLinks bodyErr created createdErr parentErr attachments attachmentsErr creators recipients comments commentsErr) w
      = .ok (v.footer c) := by
  unfold PostV.footer
  rw [h.hComments]
  rcases commentsErr with _ | ⟨_ | _, m⟩
  · rcases comments with _ | ⟨n, e⟩
    · exact nomatch h.hCommentsNonNil rfl
    simp only [Post.footer, Go.isAbsent, Option.isSome_none, Go.deref, Collection.Size, pure_bind, ↓reduceIte,
      Bool.false_eq_true, Gen14.bind_ok, commentsV]
    rcases e with _ | ⟨_ | _, m⟩
    · simp only [fld, Option.isSome_none, ↓reduceIte, Bool.false_eq_true, Gen14.color_eq, Go.sprintfD, itoa_eq_one,
        decide_eq_true_eq]
      by_cases h1 : n = 1 <;> simp only [h1, ↓reduceIte] <;> rfl
    · simp only [fld, Option.isSome_some, ↓reduceIte, Bool.false_eq_true, problem_eq]
    · rfl
  · rfl
  · rfl

/-- `Post.String(width)` = `PostV.string`; it never panics. -/
theorem post_string_eq
    (h : PostCorrF c T E v kind title titleErr body bodyLinks bodyErr created createdErr parentErr attachments attachmentsErr creators recipients comments commentsErr) (w : Int) :
    Post.String c goExpand T E (.mk kind title titleErr body bodyLinks bodyErr created createdErr parentErr attachments attachmentsErr creators recipients comments commentsErr) w
      = .ok (v.string c w) := by
  simp only [Post.String, post_header_eq (h := h), post_center_eq (h := h), post_supplement_eq (h := h),
    post_footer_eq (h := h), Gen14.bind_ok, PostV.string]
  cases v.center c (w - 4) <;> cases v.supplement c (w - 4) <;>
    simp only [↓reduceIte, Bool.false_eq_true, Gen13.indent_eq, Gen14.bind_ok, str_nlnl, str_2sp, List.append_assoc,
      List.cons_append, List.nil_append, List.append_nil] <;> rfl

/-- `Post.Preview(width)` = `PostV.preview` (which is `.ok` for well-formed colours and fields:
    `C01p.post_preview_clean`). -/
theorem post_preview_eq
    (h : PostCorrF c T E v kind title titleErr body bodyLinks bodyErr created createdErr parentErr attachments attachmentsErr creators recipients comments commentsErr) (w : Int) :
    Post.Preview c goExpand T E (.mk kind title titleErr body bodyLinks bodyErr created createdErr parentErr attachments attachmentsErr creators recipients comments commentsErr) w
      = v.preview c w := by
  simp only [Post.Preview, post_header_eq (h := h), post_center_eq (h := h), post_supplement_eq (h := h), Gen14.bind_ok,
    PostV.preview]
  cases v.center c w <;> cases v.supplement c w <;>
    simp only [↓reduceIte, Bool.false_eq_true, Gen14.color_eq, Gen13.snip_eq, Gen14.bind_ok, str_nl, str_ell,
      Option.isSome_some, Option.isSome_none, List.append_assoc, List.cons_append, List.nil_append, List.append_nil] <;> rfl

end post

/-- `Post.String(width)` = `PostV.string`, `Post.Preview(width)` = `PostV.preview`, `Post.Name()` =
    `PostV.name`, for every translated post and every post of the model that correspond. -/
theorem post_eq (c : Colors) (T : Go.TimeLib Time) (E : Obj.Err → Str) (p : Post Time) (v : PostV) (h : PostCorr c T E p v) (w : Int) :
    Post.String c goExpand T E p w = .ok (v.string c w) ∧ Post.Preview c goExpand T E p w = v.preview c w ∧
      Post.Name c goExpand T E p = .ok (v.name c) := by
  cases p
  exact ⟨post_string_eq (h := h) (w := w), post_preview_eq (h := h) (w := w), post_name_eq (h := h)⟩

theorem actor_name_eq (c : Colors) (T : Go.TimeLib Time) (E : Obj.Err → Str) (a : Actor Time) (v : ActorV)
    (h : ActorCorr c T a v) : Actor.Name c goExpand T E a = .ok (v.nameStr c) := by
  unfold Actor.Name ActorV.nameStr
  rw [h.kind, h.name, h.handle, h.host]
  obtain ⟨kind, name, nameErr, handle, handleErr, id, bio, bioErr, joined, joinedErr, posts, postsErr⟩ := a
  -- The join points of the `do` block (the rest of the method after the name, `kId`, and after the
  -- handle, `kKind`) and the model's intermediate texts: a join point that is given the model's
  -- text so far returns the model's result.
  extract_lets _ kColor kParen lw kKind kHandle kId _ o1 o2 o3
  have hKind : ∀ out, out = o2 → kKind () out = .ok (Style.color c o3) := by
    intro out ho
    have hp : Go.str "Person" = "Person".toList := rfl
    simp only [o3, ← ho, kKind, kParen, kColor, lw, Gen14.color_eq, hp, str_nil, str_sp]
    by_cases hk : kind = "Person".toList <;> cases out <;>
      simp only [hk, ↓reduceIte, ne_eq, not_true_eq_false, not_false_eq_true, decide_true, decide_false, List.isEmpty_nil,
        List.isEmpty_cons, reduceCtorEq, Bool.false_eq_true, List.append_assoc] <;> rfl
  have hId : ∀ out, out = o1 → kId () out = .ok (Style.color c o3) := by
    intro out ho
    rcases id with _ | u
    · exact hKind out ho -- without an id `kId` is `kKind` and `o2` is `o1`, by computation
    rcases handleErr with _ | ⟨_ | _, m⟩ <;> cases out <;>
      simp only [kId, kHandle, Go.isAbsent, Go.deref, problem_eq, Gen14.italic_eq, Gen14.bind_ok, Option.isSome_none,
        Option.isSome_some, Bool.not_true, Bool.not_false, Bool.and_true, Bool.and_false, ↓reduceIte, Bool.false_eq_true] <;>
      apply hKind <;>
      simp only [o2, ← ho, fld, Option.map_some, ↓reduceIte, Bool.false_eq_true, List.isEmpty_nil,
        List.isEmpty_cons, str_sp, str_at, List.append_assoc, List.cons_append, List.nil_append]
  rcases nameErr with _ | ⟨_ | _, m⟩ <;>
    simp only [Go.isAbsent, problem_eq, Gen14.bind_ok, Option.isNone_none, Option.isNone_some, Bool.not_true, Bool.not_false,
      ↓reduceIte, Bool.false_eq_true] <;>
    apply hId <;> rfl

theorem actor_header_eq (c : Colors) (T : Go.TimeLib Time) (E : Obj.Err → Str) (a : Actor Time) (v : ActorV)
    (h : ActorCorr c T a v) (w : Int) : Actor.header c goExpand T E a w = .ok (v.header c w) := by
  simp only [Actor.header, actor_name_eq c T E a v h, ActorV.header, h.joined]
  rcases a.joinedErr with _ | ⟨_ | _, m⟩ <;>
    simp only [fld, Go.isAbsent, problem_eq, Gen14.color_eq, Gen14.bind_ok, Gen13.wrap_eq, Option.isSome_some,
      Option.isSome_none, ↓reduceIte, Bool.false_eq_true, List.append_nil] <;> rfl

theorem actor_center_eq (c : Colors) (T : Go.TimeLib Time) (E : Obj.Err → Str) (a : Actor Time) (v : ActorV)
    (h : ActorCorr c T a v) (w : Int) :
    Actor.center c goExpand T E a w = .ok (match v.center c w with | some s => (s, true) | none => ([], false)) :=
  center_eq c T E h.bio w

theorem actor_footer_eq (c : Colors) (T : Go.TimeLib Time) (E : Obj.Err → Str) (a : Actor Time) (v : ActorV)
    (h : ActorCorr c T a v) (w : Int) :
    Actor.footer c goExpand T E a w = .ok (match v.footer c with | some s => (s, true) | none => ([], false)) := by
  have hnn := h.postsNonNil
  unfold Actor.footer ActorV.footer
  rw [h.posts]
  obtain ⟨kind, name, nameErr, handle, handleErr, id, bio, bioErr, joined, joinedErr, posts, postsErr⟩ := a
  rcases postsErr with _ | ⟨_ | _, m⟩
  · rcases posts with _ | ⟨n, e⟩
    · exact nomatch hnn rfl
    simp only [postsV, Collection.Size, Go.deref, Gen14.bind_ok, pure_bind, Option.isSome_none, ↓reduceIte, Bool.false_eq_true]
    rcases e with _ | ⟨_ | _, m⟩
    · simp only [fld, Go.isAbsent, Gen14.color_eq, Gen14.bind_ok, Option.isSome_none, ↓reduceIte, Bool.false_eq_true,
        itoa_eq_one, Go.sprintfD, decide_eq_true_eq]
      by_cases h1 : n = 1 <;> simp only [h1, ↓reduceIte] <;> rfl
    · simp only [fld, Go.isAbsent, problem_eq, Gen14.bind_ok, Option.isSome_some, ↓reduceIte, Bool.false_eq_true]
      rfl
    · rfl
  all_goals simp only [postsV, problem_eq, Gen14.bind_ok, Option.isSome_some, ↓reduceIte, Bool.false_eq_true]; rfl

theorem actor_string_eq (c : Colors) (T : Go.TimeLib Time) (E : Obj.Err → Str) (a : Actor Time) (v : ActorV)
    (h : ActorCorr c T a v) (w : Int) : Actor.String c goExpand T E a w = .ok (v.string c w) := by
  simp only [Actor.String, actor_header_eq c T E a v h, actor_center_eq c T E a v h, actor_footer_eq c T E a v h,
    Gen14.bind_ok, ActorV.string]
  cases v.center c (w - 4) <;> cases v.footer c <;>
    simp only [↓reduceIte, Bool.false_eq_true, Gen13.indent_eq, Gen14.bind_ok, Option.isSome_some, Option.isSome_none,
      str_nl, str_nlnl, str_2sp, List.append_assoc, List.cons_append, List.nil_append, List.append_nil] <;> rfl

theorem actor_preview_eq (c : Colors) (T : Go.TimeLib Time) (E : Obj.Err → Str) (a : Actor Time) (v : ActorV)
    (h : ActorCorr c T a v) (w : Int) : Actor.Preview c goExpand T E a w = v.preview c w := by
  simp only [Actor.Preview, actor_header_eq c T E a v h, actor_center_eq c T E a v h, actor_footer_eq c T E a v h,
    Gen14.bind_ok, ActorV.preview]
  rcases v.center c w with _ | b
  · cases v.footer c <;> simp only [↓reduceIte, Bool.false_eq_true, str_nl, List.append_nil] <;> rfl
  · simp only [↓reduceIte, Gen13.snip_eq, Gen14.color_eq, Gen14.bind_ok, str_nl, str_ell]
    cases snip b w 4 (Style.color c ['…']) <;> cases v.footer c <;>
      simp only [↓reduceIte, Bool.false_eq_true, Gen14.bind_ok, List.append_assoc, List.cons_append, List.nil_append,
        List.append_nil] <;> rfl

/-- The kinds `NewActivityFromObject` lets through. -/
def knownKind (kind : Str) : Prop :=
  kind = "Create".toList ∨ kind = "Announce".toList ∨ kind = "Like".toList ∨ kind = "Dislike".toList

/-- What the header shows for the actor: its name, or the problem that stands for it. -/
inductive ActorShown (c : Colors) (T : Go.TimeLib Time) (E : Obj.Err → Str) : Option (Actor Time) → Go.ErrorV → Str → Prop where
  | err (actor : Option (Actor Time)) (x : Go.ErrV) : ActorShown c T E actor (some x) (problem c x.text)
  | ok (a : Actor Time) (v : ActorV) (h : ActorCorr c T a v) : ActorShown c T E (some a) none (v.nameStr c)

theorem str_create : Go.str "Create" = "Create".toList := rfl
theorem str_announce : Go.str "Announce" = "Announce".toList := rfl
theorem str_like : Go.str "Like" = "Like".toList := rfl
theorem str_dislike : Go.str "Dislike" = "Dislike".toList := rfl

/-- `Activity.header(width)` for every kind: the four known ones, and the panic for the others. The
    actor's name (or the problem that stands for it) is computed before the kind is looked at; under
    `ActorShown` neither panics. -/
theorem activity_header_gen (c : Colors) (T : Go.TimeLib Time) (E : Obj.Err → Str) (kind : Str) (actor : Option (Actor Time))
    (actorErr : Go.ErrorV) (created : Time) (createdErr : Go.ErrorV) (target : Tangible Time) (w : Int) (actorName : Str)
    (ha : ActorShown c T E actor actorErr actorName) :
    Activity.header c goExpand T E (.mk kind actor actorErr created createdErr target) w =
      if kind = "Create".toList then .ok []
      else if kind = "Announce".toList then .ok (Ansi.wrap (actorName ++ ' ' :: "retweeted".toList ++ [':', '\n']) w)
      else if kind = "Like".toList then .ok (Ansi.wrap (actorName ++ ' ' :: "upvoted".toList ++ [':', '\n']) w)
      else if kind = "Dislike".toList then .ok (Ansi.wrap (actorName ++ ' ' :: "downvoted".toList ++ [':', '\n']) w)
      else .error (Go.panicText ("encountered unrecognized Activity type: ".toList ++ kind)) := by
  rw [Activity.header, Gen20.ite_str]
  -- `kVerb`: the rest of the method once the actor's name is in the output.
  extract_lets e kWrap kVerb
  by_cases hc : kind = "Create".toList
  · rw [if_pos hc, if_pos hc]; rfl
  rw [if_neg hc, if_neg hc]
  refine Eq.trans (b := kVerb () (e ++ actorName)) ?_ ?_
  · cases ha with
    | err actor x => simp only [problem_eq, Gen14.bind_ok, Option.isSome_some, ↓reduceIte]
    | ok a v h =>
      simp only [actor_name_eq c T E a v h, Go.deref, Gen14.bind_ok, Option.isSome_none, ↓reduceIte, Bool.false_eq_true]
  · have hn : Go.str ":\n" = [':', '\n'] := by rw [Go.str, String.toList_ofList]
    simp only [kVerb, kWrap, e, Gen20.ite_str, Gen13.wrap_eq, str_nil, str_sp, hn, List.append_assoc, List.cons_append,
      List.nil_append]
    rfl

/-- `Activity.header(width)` = `activityHeader`, for the kinds the constructor lets through. -/
theorem activity_header_eq (c : Colors) (T : Go.TimeLib Time) (E : Obj.Err → Str) (kind : Str) (actor : Option (Actor Time))
    (actorErr : Go.ErrorV) (created : Time) (createdErr : Go.ErrorV) (target : Tangible Time) (w : Int) (actorName : Str)
    (hk : knownKind kind) (ha : ActorShown c T E actor actorErr actorName) :
    Activity.header c goExpand T E (.mk kind actor actorErr created createdErr target) w = .ok (activityHeader c kind actorName w) := by
  rw [activity_header_gen c T E kind actor actorErr created createdErr target w actorName ha]
  rcases hk with h | h | h | h <;> simp only [h, activityHeader, String.toList_inj, String.reduceEq, ↓reduceIte]

/-- For any other kind the code panics where the model says "downvoted": the model is only right
    on the kinds the constructor lets through. -/
theorem activity_header_unknown_kind (c : Colors) (T : Go.TimeLib Time) (E : Obj.Err → Str) (kind : Str) (actor : Option (Actor Time))
    (actorErr : Go.ErrorV) (created : Time) (createdErr : Go.ErrorV) (target : Tangible Time) (w : Int) (actorName : Str)
    (hk : ¬ knownKind kind) (ha : ActorShown c T E actor actorErr actorName) :
    Activity.header c goExpand T E (.mk kind actor actorErr created createdErr target) w =
      .error (Go.panicText ("encountered unrecognized Activity type: ".toList ++ kind)) := by
  rw [activity_header_gen c T E kind actor actorErr created createdErr target w actorName ha]
  simp only [knownKind, not_or] at hk
  rw [if_neg hk.1, if_neg hk.2.1, if_neg hk.2.2.1, if_neg hk.2.2.2]

/-- `Activity.String(width)`: the header in front of the target's `String(width)`. -/
theorem activity_string_eq (c : Colors) (T : Go.TimeLib Time) (E : Obj.Err → Str) (kind : Str) (actor : Option (Actor Time))
    (actorErr : Go.ErrorV) (created : Time) (createdErr : Go.ErrorV) (target : Tangible Time) (w : Int) (actorName s : Str)
    (hk : knownKind kind) (ha : ActorShown c T E actor actorErr actorName)
    (ht : Tangible.String c goExpand T E target w = .ok s) :
    Activity.String c goExpand T E (.mk kind actor actorErr created createdErr target) w = .ok (activityHeader c kind actorName w ++ s) := by
  rw [Activity.String]
  simp only [activity_header_eq c T E kind actor actorErr created createdErr target w actorName hk ha, ht, Gen14.bind_ok]
  rfl

/-- `Activity.Preview(width)`: the header in front of the target's `Preview(width)`. -/
theorem activity_preview_eq (c : Colors) (T : Go.TimeLib Time) (E : Obj.Err → Str) (kind : Str) (actor : Option (Actor Time))
    (actorErr : Go.ErrorV) (created : Time) (createdErr : Go.ErrorV) (target : Tangible Time) (w : Int) (actorName s : Str)
    (hk : knownKind kind) (ha : ActorShown c T E actor actorErr actorName)
    (ht : Tangible.Preview c goExpand T E target w = .ok s) :
    Activity.Preview c goExpand T E (.mk kind actor actorErr created createdErr target) w = .ok (activityHeader c kind actorName w ++ s) := by
  rw [Activity.Preview]
  simp only [activity_header_eq c T E kind actor actorErr created createdErr target w actorName hk ha, ht, Gen14.bind_ok]
  rfl

/-- `Activity.Name()` is its target's `Name()`. -/
theorem activity_name_eq (c : Colors) (T : Go.TimeLib Time) (E : Obj.Err → Str) (kind : Str) (actor : Option (Actor Time))
    (actorErr : Go.ErrorV) (created : Time) (createdErr : Go.ErrorV) (target : Tangible Time) :
    Activity.Name c goExpand T E (.mk kind actor actorErr created createdErr target) = Tangible.Name c goExpand T E target := by
  rw [Activity.Name]

/-- The dispatch through the interface: the method of the dynamic type. -/
theorem tangible_string_eq (c : Colors) (T : Go.TimeLib Time) (E : Obj.Err → Str) (w : Int) :
    (∀ p : Post Time, Tangible.String c goExpand T E (.post p) w = Post.String c goExpand T E p w) ∧
    (∀ a : Actor Time, Tangible.String c goExpand T E (.actor a) w = Actor.String c goExpand T E a w) ∧
    (∀ a : Activity Time, Tangible.String c goExpand T E (.activity a) w = Activity.String c goExpand T E a w) ∧
    (∀ f : Failure, Tangible.String c goExpand T E (.failure f : Tangible Time) w = Failure.String c goExpand T E f w) := by
  refine ⟨?_, ?_, ?_, ?_⟩ <;> intro x <;> rw [Tangible.String]

theorem tangible_preview_eq (c : Colors) (T : Go.TimeLib Time) (E : Obj.Err → Str) (w : Int) :
    (∀ p : Post Time, Tangible.Preview c goExpand T E (.post p) w = Post.Preview c goExpand T E p w) ∧
    (∀ a : Actor Time, Tangible.Preview c goExpand T E (.actor a) w = Actor.Preview c goExpand T E a w) ∧
    (∀ a : Activity Time, Tangible.Preview c goExpand T E (.activity a) w = Activity.Preview c goExpand T E a w) ∧
    (∀ f : Failure, Tangible.Preview c goExpand T E (.failure f : Tangible Time) w = Failure.Preview c goExpand T E f w) := by
  refine ⟨?_, ?_, ?_, ?_⟩ <;> intro x <;> rw [Tangible.Preview]

theorem tangible_name_eq (c : Colors) (T : Go.TimeLib Time) (E : Obj.Err → Str) :
    (∀ p : Post Time, Tangible.Name c goExpand T E (.post p) = Post.Name c goExpand T E p) ∧
    (∀ a : Actor Time, Tangible.Name c goExpand T E (.actor a) = Actor.Name c goExpand T E a) ∧
    (∀ a : Activity Time, Tangible.Name c goExpand T E (.activity a) = Activity.Name c goExpand T E a) ∧
    (∀ f : Failure, Tangible.Name c goExpand T E (.failure f : Tangible Time) = Failure.Name c goExpand T E f) := by
  refine ⟨?_, ?_, ?_, ?_⟩ <;> intro x <;> rw [Tangible.Name]

end Gen01p
