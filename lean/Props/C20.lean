import Model
import Proofs.C20

/-
  C20 — the media hook receives exactly the configured argv, substituted argument-wise.
-/

namespace C20
open Hook

def placeholders : List Str := ["%url".toList, "%mimetype".toList, "%subtype".toList, "%supertype".toList]

/-- Shape of argv: same length as the hook, program name untouched, every other argument
    replaced iff it is *exactly* a placeholder, otherwise passed through verbatim. -/
theorem argv_shape (hook : List Str) (link : Str) (mt : Mime.MediaType) (hne : hook ≠ []) :
    ∃ c, build hook link mt = .ok c ∧
      c.argv.length = hook.length ∧
      c.argv[0]? = hook[0]? ∧
      ∀ i, 1 ≤ i → ∀ a, hook[i]? = some a →
        c.argv[i]? = some
          (if a = "%url".toList then link
           else if a = "%mimetype".toList then mt.essence
           else if a = "%subtype".toList then mt.subtype
           else if a = "%supertype".toList then mt.supertype
           else a) := by
  cases hook with
  | nil => exact absurd rfl hne
  | cons prog args =>
    refine ⟨_, build_cons prog args link mt, by simp only [List.length_cons, List.length_map], rfl, ?_⟩
    intro i hi a ha
    rw [argv_get prog args link mt i hi a ha, substitute]

/-- Arguments that merely contain a placeholder (or anything else) are not touched. -/
theorem non_placeholder_untouched (hook : List Str) (link : Str) (mt : Mime.MediaType) (c : Cmd)
    (h : build hook link mt = .ok c) (i : Nat) (hi : 1 ≤ i) (a : Str) (ha : hook[i]? = some a)
    (hn : a ∉ placeholders) : c.argv[i]? = some a := by
  obtain ⟨prog, args, rfl, rfl⟩ := build_ok_inv h
  rw [argv_get prog args link mt i hi a ha]
  simp only [placeholders, List.mem_cons, List.not_mem_nil, or_false, not_or] at hn
  rw [substitute_of_not_placeholder link mt a hn.1 hn.2.1 hn.2.2.1 hn.2.2.2]

/-- The link is passed on stdin iff no argument after the program name is exactly `%url`. -/
theorem stdin_iff (hook : List Str) (link : Str) (mt : Mime.MediaType) (c : Cmd)
    (h : build hook link mt = .ok c) :
    (c.stdin = some link ↔ ∀ i, 1 ≤ i → hook[i]? ≠ some "%url".toList) ∧
    (c.stdin = none ↔ ∃ i, 1 ≤ i ∧ hook[i]? = some "%url".toList) := by
  obtain ⟨prog, args, rfl, rfl⟩ := build_ok_inv h
  have hc := contains_iff_index args prog "%url".toList
  by_cases hx : args.contains "%url".toList = true
  · have hex := hc.mp hx
    rw [if_pos hx]
    refine ⟨⟨(fun h => nomatch h), fun hall => ?_⟩, ⟨fun _ => hex, fun _ => rfl⟩⟩
    obtain ⟨i, hi, he⟩ := hex
    exact absurd he (hall i hi)
  · have hnex : ¬ ∃ i, 1 ≤ i ∧ (prog :: args)[i]? = some "%url".toList := fun he => hx (hc.mpr he)
    rw [if_neg hx]
    exact ⟨⟨fun _ i hi he => hnex ⟨i, hi, he⟩, fun _ => rfl⟩, ⟨(fun h => nomatch h), fun he => absurd he hnex⟩⟩

/-- The link arrives verbatim as a whole argument wherever `%url` stood, whatever it
    contains — it is never split or expanded again (substitution is a single pass over the
    configured arguments, not over its own output). -/
theorem link_verbatim (hook : List Str) (link : Str) (mt : Mime.MediaType) (c : Cmd)
    (h : build hook link mt = .ok c) (i : Nat) (hi : 1 ≤ i) (ha : hook[i]? = some "%url".toList) :
    c.argv[i]? = some link := by
  obtain ⟨prog, args, rfl, rfl⟩ := build_ok_inv h
  rw [argv_get prog args link mt i hi _ ha, substitute_url]

/-- The program name is never substituted, even if it is itself a placeholder. -/
theorem program_never_substituted (prog : Str) (args : List Str) (link : Str) (mt : Mime.MediaType) :
    ∃ c, build (prog :: args) link mt = .ok c ∧ c.argv.head? = some prog :=
  ⟨_, build_cons prog args link mt, rfl⟩

/-- An empty hook is the only way to panic (excluded by `Config.Safe`, C19). -/
theorem panic_iff_empty (hook : List Str) (link : Str) (mt : Mime.MediaType) :
    (∃ e, build hook link mt = .error e) ↔ hook = [] := by
  cases hook with
  | nil => exact ⟨fun _ => rfl, fun _ => ⟨_, rfl⟩⟩
  | cons prog args => exact ⟨(fun ⟨_, h⟩ => nomatch h), (fun h => nomatch h)⟩

example : build ["mpv".toList, "--".toList, "%url".toList, "x%url".toList] "a b".toList Mime.unknown =
    .ok ⟨["mpv".toList, "--".toList, "a b".toList, "x%url".toList], none⟩ := by
  rw [build_cons]
  exact congrArg Except.ok (by decide +kernel)

end C20
