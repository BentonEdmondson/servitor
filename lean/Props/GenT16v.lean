import Model
import Generated.GoView
import Props.C16
import Props.C16b
import Props.C18
import Props.Gen16v

/-
  C16 on the code as translated from the Go source (`Generated/GoView.lean`, the translation of
  `(*State).view` of ui/ui.go regenerated on every run): every frame is exactly as tall as the
  terminal.  The theorems of `Props/C16b.lean` are about `Ui.frame` applied to arbitrary parts;
  `Props/Gen16v.lean` proves the translated `view` equal to `Ui.frame` applied to the parts the
  model computes; here the two are put together.  Nothing below mentions the hand-written model
  in its conclusion.
-/

namespace GenT16v
open Ui Gen16v

variable {α : Type}

/-- Every position inside the bounds of the feed holds an item (what C18 proves of every feed
    built by `Create` / `CreateAndAppend` and changed by the feed operations: `full_of_rep`). -/
def Full (f : Feed.F α) : Prop :=
  ∀ off, Feed.contains f off = true → ∃ x, f.feed (f.index + off) = some x

theorem full_of_rep (f : Feed.F α) (s : Feed.Seq2 α) (h : C18.Rep f s) : Full f := by
  intro off hc
  obtain ⟨hin, hget, -, -⟩ := C18.rep_observe f s h off
  have hg := hget hc
  simp only [Feed.get, hc, Bool.not_true, Bool.false_eq_true, if_false, Except.ok.injEq] at hg
  rw [hin] at hc
  rw [hg, C18.at_of_inside s _ hc]
  have hi := (C18.inside_iff s _).mp hc
  have hlt : (s.cursor + off - s.lo - 1).toNat < s.items.length := by omega
  exact ⟨s.items[(s.cursor + off - s.lo - 1).toNat], List.getElem?_eq_getElem hlt⟩

theorem partsStep_ok (r : Render α) (f : Feed.F α) (w : Int) (acc : Str × Str × Str) (i : Int)
    (hf : Full f) : ∃ acc', partsStep r f w acc i = .ok acc' := by
  unfold partsStep
  rcases Bool.eq_false_or_eq_true (Feed.contains f i) with hc | hc
  · obtain ⟨x, hx⟩ := hf i hc
    simp only [hc, Feed.get, Bool.not_true, Bool.false_eq_true, if_false, hx]
    by_cases h0 : i = 0
    · simp only [h0, if_true]; exact ⟨_, rfl⟩
    · by_cases hn : i < 0
      · simp only [h0, hn, if_false, if_true]; exact ⟨_, rfl⟩
      · simp only [h0, hn, if_false]; exact ⟨_, rfl⟩
  · simp only [hc, Bool.not_false, if_true]; exact ⟨_, rfl⟩

theorem foldParts_ok (r : Render α) (f : Feed.F α) (w : Int) (hf : Full f) (L : List Int)
    (acc : Str × Str × Str) : ∃ acc', foldParts r f w L acc = .ok acc' := by
  induction L generalizing acc with
  | nil => exact ⟨acc, rfl⟩
  | cons i is ih =>
    obtain ⟨a, ha⟩ := partsStep_ok r f w acc i hf
    simp only [foldParts, ha]
    exact ih a

theorem parts_ok (c : Colors) (r : Render α) (p : PageView α) (ctx w : Int) (hf : Full p.feed) :
    ∃ v, parts c r p ctx w = .ok v := by
  unfold parts
  obtain ⟨a, ha⟩ := foldParts_ok r p.feed w hf
    (offsets (walkUp p.feed ctx.toNat 0) (walkDown p.feed ctx.toNat 0)) ([], [], [])
  obtain ⟨t, ce, b⟩ := a
  simp only [ha]
  exact ⟨_, rfl⟩

/-- **C16 on the translated `view`.**  For every translated state in one of the six modes, every
    context, every terminal of width ≥ 0 and height ≥ 2, and a highlight colour without a newline:
    if (outside loading mode) the history has a current page whose feed holds an item at every
    position inside its bounds, then `view` does not panic and returns a string of exactly
    `height` lines — whatever the items render to, whatever the buffer holds.  (Sizes: the
    height and the three parts are below 2^62, as every Go string is.) -/
theorem view_height (c : Colors) (ctx : Int) (g : GenView.State) (m : Mode) (hm : g.mode = modeNum m)
    (hc : '\n' ∉ c.highlight) (hw : 0 ≤ g.width) (h2 : 2 ≤ g.height) (h62 : g.height < 2 ^ 62)
    (hpage : m ≠ .loading → ∃ p, GenHistory.Current g.h = .ok p ∧ Full (pageView p).feed)
    (hsz : ∀ t ce b, viewParts c tangible m (curOf g) ctx g.width = .ok (t, ce, b) →
      t.length < 2 ^ 62 ∧ ce.length < 2 ^ 62 ∧ b.length < 2 ^ 62) :
    ∃ out, GenView.view c ctx g = .ok out ∧ (Ansi.height out : Int) = g.height := by
  rw [view_eq c ctx g m hm (by omega) h62 hsz]
  have hparts : ∃ v, viewParts c tangible m (curOf g) ctx g.width = .ok v := by
    unfold viewParts
    by_cases hl : m = .loading
    · simp only [hl, if_true]; exact ⟨_, rfl⟩
    · obtain ⟨p, hp, hf⟩ := hpage hl
      simp only [hl, if_false, curOf, hp]
      exact parts_ok c tangible (pageView p) ctx g.width hf
  obtain ⟨⟨t, ce, b⟩, hv⟩ := hparts
  obtain ⟨hu, -⟩ := toUint_small g.height (by omega) h62
  simp only [viewOf, hv, hu]
  obtain ⟨out, ho, hh⟩ := C16.view_height c t ce b (footerFor m g.buffer) g.width g.height.toNat hw
    (by omega) hc
  exact ⟨out, ho, by rw [hh]; omega⟩

/-- The same for every configuration the configuration check accepts (C19). -/
theorem view_height_colorsOk (c : Colors) (ctx : Int) (g : GenView.State) (m : Mode)
    (hm : g.mode = modeNum m) (hc : Cells.ColorsOk c) (hw : 0 ≤ g.width) (h2 : 2 ≤ g.height)
    (h62 : g.height < 2 ^ 62)
    (hpage : m ≠ .loading → ∃ p, GenHistory.Current g.h = .ok p ∧ Full (pageView p).feed)
    (hsz : ∀ t ce b, viewParts c tangible m (curOf g) ctx g.width = .ok (t, ce, b) →
      t.length < 2 ^ 62 ∧ ce.length < 2 ^ 62 ∧ b.length < 2 ^ 62) :
    ∃ out, GenView.view c ctx g = .ok out ∧ (Ansi.height out : Int) = g.height := by
  apply view_height c ctx g m hm ?_ hw h2 h62 hpage hsz
  intro hmem
  have hd := Cells.sgrOk_digs hc.2.2.1 '\n' (List.mem_append_right _ hmem)
  exact Cells.digs_ne_nl hd rfl

/-! ### Non-vacuity: a state that meets every hypothesis of `view_height` -/

def exItem : GenView.Tangible := ⟨fun _ => ['p'], fun _ => ['s']⟩

/-- One page holding one item, command mode with `q` typed, a 10 × 4 terminal. -/
def exState : GenView.State :=
  { h := ⟨[⟨⟨fun i => if i = 0 then some exItem else none, 1, -1, 0⟩, false, false⟩], 0⟩,
    width := 10, height := 4, mode := GenView.command, buffer := ['q'] }

/-- A feed as `Create` leaves it, one item at the cursor and nothing else inside the bounds, is full. -/
theorem full_single (f : Feed.F α) (x : α) (hu : f.upper = 1) (hl : f.lower = -1) (hi : f.index = 0)
    (hx : f.feed 0 = some x) : Full f := by
  intro off hc
  simp only [Feed.contains, hu, hl, hi, Bool.and_eq_true, decide_eq_true_eq] at hc
  have h0 : off = 0 := by omega
  rw [hi, h0]
  exact ⟨x, hx⟩

theorem exState_page : ∃ p, GenHistory.Current exState.h = .ok p ∧ Full (pageView p).feed :=
  ⟨_, rfl, full_single _ exItem rfl rfl rfl rfl⟩

theorem exState_sizes (w h : Int) (t ce b : Str)
    (hp : viewParts ⟨[], [], [], []⟩ tangible .command (curOf { exState with width := w, height := h }) 5 w
      = .ok (t, ce, b)) :
    t.length < 2 ^ 62 ∧ ce.length < 2 ^ 62 ∧ b.length < 2 ^ 62 := by
  have hv : viewParts ⟨[], [], [], []⟩ tangible .command (curOf { exState with width := w, height := h }) 5 w
      = .ok ([], "┃ s".toList, []) := by rfl
  rw [hv] at hp
  cases hp
  decide

example : ∃ out, GenView.view ⟨[], [], [], []⟩ 5 exState = .ok out ∧ (Ansi.height out : Int) = 4 :=
  view_height ⟨[], [], [], []⟩ 5 exState .command rfl (by decide) (by decide) (by decide) (by decide)
    (fun _ => exState_page) (exState_sizes 10 4)

end GenT16v
