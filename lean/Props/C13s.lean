import Model
import Props.Clean
import Proofs.C13
import Proofs.C15
import Proofs.C13s

/-
  C13 / C15 at string level: for clean styled text (what servitor's own style layer produces) the
  width bound of the cell-level theorems is a statement about the rendered *string*: every line of
  the output, re-scanned the way the code scans text, has at most `w` visible characters.
-/

namespace C13s
open Str Ansi Cells AnsiSpec

/-- Word wrapping of clean text: every output line has at most `w` visible characters. -/
theorem wrap_width_clean (s : Str) (h : Clean s) (w : Int) (hw : 1 ≤ w) :
    linesWithin w (wrap s w) = true := by
  unfold wrap
  exact C13sP.linesWithin_lines w (by omega) _
    (fun l hl m hm => clean_expand s h m (WrapP.wrapLines_subset _ w l hl m hm).1)
    (WrapP.wrap_lines_no_newline _ w) (WrapP.wrap_width _ w hw)

/-- Hard wrapping of clean text likewise. -/
theorem dumbWrap_width_clean (s : Str) (h : Clean s) (w : Int) (hw : 1 ≤ w) :
    linesWithin w (dumbWrap s w) = true := by
  rw [LayoutP.dumbWrap_refines]
  exact C13sP.linesWithin_lines w (by omega) _
    (fun l hl m hm => clean_expand s h m (dumbLines_mem _ w l hl m hm).1)
    (fun l hl m hm => (dumbLines_mem _ w l hl m hm).2) (LayoutP.dumbWrap_width _ w hw)

/-- What all three renderers end with. -/
theorem trim_wrap_within (p : Char → Bool) (hp : ∀ c, p c = true → c = ' ' ∨ c = '\n')
    (text : Str) (ht : Clean text) (w : Int) (hw : 1 ≤ w) :
    linesWithin w (trim p (wrap text w)) = true :=
  C13sP.linesWithin_trim p hp w _ (clean_wrap text w ht) (wrap_width_clean text ht w hw)

/-- The width clause of C15, no rendered line is longer than the width: HTML / Markdown, for every
    forest. -/
theorem html_lines_within (c : Colors) (hc : ColorsOk c) (nodes : List Dom.Node)
    (ht : Hypertext.tagsCleanList nodes = true) (w : Int) (hw : 1 ≤ w) :
    linesWithin w (Markup.htmlR c nodes w) = true := by
  rw [C15P.htmlR_eq]
  exact trim_wrap_within isSpNl isSpNl_spec _ (kids_clean c hc nodes ht _ _ _ _ clean_nil) w hw

/-- The same for gemtext, for every list of control-free lines. -/
theorem gemtext_lines_within (c : Colors) (hc : ColorsOk c) (lines : List Str)
    (hl : ∀ l ∈ lines, Safe.noCtl l = true ∧ '\n' ∉ l) (w : Int) (hw : 1 ≤ w) :
    linesWithin w (Markup.gemR c lines w) = true := by
  rw [C15P.gemR_eq]
  exact trim_wrap_within isNl isNl_spec _
    (gem_text_clean c hc lines (fun l hl' => (hl l hl').1) w) w hw

/-- The same for plain text, for every control-free string. -/
theorem plaintext_lines_within (c : Colors) (hc : ColorsOk c) (text : Str) (ht : Safe.noCtl text = true)
    (w : Int) (hw : 1 ≤ w) : linesWithin w (Markup.plainR c text w) = true := by
  rw [C15P.plainR_eq]
  exact trim_wrap_within isNl isNl_spec _ (replaceUrls_clean c hc _ _ _ _ ht) w hw

end C13s
