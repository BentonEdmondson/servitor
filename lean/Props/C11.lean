import Model
import Proofs.C11

/-
  C11 — a feed is the newest-first merge of its sources, each item exactly once.
  `heads` and `popTrace` are the definitions of the same names in Proofs/C11.lean (`heads_eq`,
  `popTrace_eq`), written out here so that the statements can be read without that file.
-/

namespace C11
open Splicer

variable {C T : Type}

def heads (s : List (Source C T)) : List (Nat × T) :=
  (s.zipIdx.filterMap fun (src, i) => src.elements.head?.map fun e => (i, e))

theorem heads_eq (s : List (Source C T)) : heads s = C11P.heads s := rfl

/-- `microharvest` pops a head: the chosen item is the head of some source `i`, its
    timestamp is maximal among all current heads, sources before `i` have strictly smaller head
    timestamps (ties go to the source listed first), and exactly that head is removed. -/
theorem microharvest_spec (ts : T → Int) (s : List (Source C T)) (e : T) (s' : List (Source C T))
    (h : microharvest ts s = (some e, s')) :
    ∃ i src, s[i]? = some src ∧ src.elements.head? = some e ∧
      (∀ j x, (j, x) ∈ heads s → ts x ≤ ts e) ∧
      (∀ j x, (j, x) ∈ heads s → j < i → ts x < ts e) ∧
      s' = s.set i { src with elements := src.elements.tail } := by
  rw [heads_eq]; exact C11P.microharvest_spec ts s e s' h

/-- `microharvest` returns nothing iff every source's buffer is empty. -/
theorem microharvest_none (ts : T → Int) (s : List (Source C T)) :
    (microharvest ts s).1 = none ↔ ∀ src ∈ s, src.elements = [] :=
  C11P.microharvest_none ts s

/-- The pops of `take ts q s`, each with the index of the source it came from. -/
def popTrace (ts : T → Int) : Nat → List (Source C T) → List (Nat × T)
  | 0, _ => []
  | q + 1, s =>
    match pick ts s 0 none with
    | none => []
    | some (i, e) => (i, e) :: popTrace ts q (popAt s i)

theorem popTrace_eq (ts : T → Int) (q : Nat) (s : List (Source C T)) :
    popTrace ts q s = C11P.popTrace ts q s := by
  induction q, s using C11P.pop_induction ts with
  | zero s => rfl
  | dry q s hp => simp only [popTrace, C11P.popTrace, hp]
  | pop q s i e hp ih => simp only [popTrace, C11P.popTrace, hp, ih]

theorem take_is_trace (ts : T → Int) (q : Nat) (s : List (Source C T)) :
    (take ts q s).1 = (popTrace ts q s).map (·.2) := by
  rw [popTrace_eq]; exact C11P.take_is_trace ts q s

/-- Exactly once, order preserved: the items taken from the buffers, re-interleaved, are
    what was there — for every source, (its part of the output) ++ (what remains buffered) is
    its original buffer. -/
theorem take_exactly_once (ts : T → Int) (q : Nat) (s : List (Source C T)) (s' : List (Source C T))
    (h : (take ts q s).2 = some s') (i : Nat) (src : Source C T) (hi : s[i]? = some src) :
    ∃ src', s'[i]? = some src' ∧
      ((popTrace ts q s).filter (fun p => p.1 = i)).map (·.2) ++ src'.elements = src.elements := by
  rw [popTrace_eq]; exact C11P.take_exactly_once ts q s s' h i src hi

/-- The number of items delivered is exactly `q` when a continuation is returned, and fewer
    only when every buffer has been emptied (the feed simply ends: `none`). -/
theorem take_count (ts : T → Int) (q : Nat) (s : List (Source C T)) :
    match (take ts q s).2 with
    | some _ => (take ts q s).1.length = q
    | none => (take ts q s).1.length < q ∧
              (take ts q s).1.length = (s.map fun src => src.elements.length).sum :=
  C11P.take_count ts q s

/-- After `replenish n` every source holds at least `n` items or the container it was
    refilled from delivered fewer than asked. -/
theorem replenish_enough (hv : Hv C T) (n : Nat) (s : List (Source C T)) (i : Nat) (src : Source C T)
    (hi : s[i]? = some src) :
    ∃ src', (replenish hv n s)[i]? = some src' ∧ src.elements <+: src'.elements ∧
      (n ≤ src'.elements.length ∨ src.page = none ∨
        ∃ p, src.page = some p ∧ (hv p (n - src.elements.length) src.basepoint).1.length < n - src.elements.length) :=
  C11P.replenish_enough hv n s i src hi

/-- Same position, same answer: the items `take` delivers after the first `a` are the items it
    delivers from the buffers `skip ts a` leaves, unless they ran dry within those `a`.  (That asking
    twice gives the same answer needs no theorem: the Go code works on a clone, the model is pure.) -/
theorem skip_take (ts : T → Int) (a q : Nat) (s : List (Source C T)) :
    (take ts (a + q) s).1.drop a = (take ts q (skip ts a s)).1 ∨ (take ts a s).2 = none :=
  C11P.skip_take ts a q s

/-- Harvesting `q₁` and then `q₂` from the returned continuation (whose sources need no further
    replenishing when the containers are exhausted) yields what one harvest of `q₁ + q₂` yields:
    stated on buffers — taking `q₁` then `q₂` is taking `q₁ + q₂`. -/
theorem take_compose (ts : T → Int) (q₁ q₂ : Nat) (s s₁ : List (Source C T))
    (h : (take ts q₁ s).2 = some s₁) :
    (take ts (q₁ + q₂) s).1 = (take ts q₁ s).1 ++ (take ts q₂ s₁).1 ∧
    (take ts (q₁ + q₂) s).2 = (take ts q₂ s₁).2 :=
  C11P.take_compose ts q₁ q₂ s s₁ h

/-- When all sources are exhausted the continuation is `none` (an untyped nil in Go) as soon
    as fewer items than requested remain. -/
theorem exhausted_is_none (ts : T → Int) (q : Nat) (s : List (Source C T))
    (h : (s.map fun src => src.elements.length).sum < q) : (take ts q s).2 = none :=
  C11P.exhausted_is_none ts q s h

example : (take (fun (n : Nat) => (n : Int)) 3
    [⟨0, (none : Option Unit), [5, 1]⟩, ⟨0, none, [7, 2]⟩]).1 = [7, 5, 2] := by
  decide

end C11
