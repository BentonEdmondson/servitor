import Proofs.C01p
import Proofs.C02
import Proofs.C03
import Proofs.C04
import Proofs.C05
import Proofs.C06
import Proofs.C07
import Proofs.C08
import Proofs.C09
import Proofs.C10
import Proofs.C11
import Proofs.C12
import Proofs.C13
import Proofs.C13s
import Proofs.C14
import Proofs.C15
import Proofs.C16
import Proofs.C16b
import Proofs.C17
import Proofs.C18
import Proofs.C19
import Proofs.C20
import Proofs.Cells
import Proofs.Clean
import Proofs.CleanAnsi
import Proofs.CleanBasic
import Proofs.CleanGem
import Proofs.CleanRender
import Proofs.CleanStyle
import Proofs.CleanTrim
import Proofs.Expand
import Proofs.Gen11
import Proofs.Gen13
import Proofs.Gen14
import Proofs.Gen15
import Proofs.Gen15h
import Proofs.Gen15hA
import Proofs.GenT15
import Proofs.Gen16
import Proofs.Gen16v
import Proofs.Gen17
import Proofs.Gen18
import Proofs.Layout
import Proofs.Link
import Proofs.Snip
import Proofs.WrapBreaks
import Proofs.WrapContent
import Proofs.WrapStep
import Proofs.WrapWidth
import Proofs.WrapWords
import Proofs.GoBytes
import Proofs.Gen16m
