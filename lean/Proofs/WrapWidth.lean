import Proofs.WrapStep

/-
  What `ansi.Wrap` does after the loop, the width of its lines, and where their cells come from.
-/

namespace WrapP
open Str Ansi AnsiSpec

/-- The line left when the loop ends: `Wrap` flushes once more. -/
def lastLine (s : WrapSt) : List RawCell :=
  if s.word.length > 0 then s.line ++ s.space ++ s.word else s.line

theorem lastLine_flush (s : WrapSt) : lastLine s = (flush s).line := by
  unfold lastLine flush
  split <;> rfl

/-- What `Wrap` returns: the last line is dropped if empty, unless the text ended in a newline. -/
def finalLines (s : WrapSt) (nl : Bool) : List (List RawCell) :=
  if (lastLine s).length > 0 || nl then s.result ++ [lastLine s] else s.result

theorem mem_finalLines {s : WrapSt} {b : Bool} {l : List RawCell} (h : l ∈ finalLines s b) :
    l ∈ s.result ∨ l = lastLine s := by
  unfold finalLines at h
  split at h
  · simpa using h
  · exact Or.inl h

def finalIsNL (cells : List RawCell) : Bool :=
  match cells.getLast? with
  | some m => m.letter = '\n'
  | none => false

theorem wrapLines_eq (cells : List RawCell) (w : Int) :
    wrapLines cells w = finalLines (cells.foldl (wrapStep w) {}) (finalIsNL cells) := rfl

theorem wrap_width (cells : List RawCell) (w : Int) (hw : 1 ≤ w) :
    ∀ l ∈ wrapLines cells w, (l.length : Int) ≤ w := by
  have h := Inv_foldl hw cells (Inv_init w hw)
  intro l hl
  rcases mem_finalLines hl with hl | rfl
  · exact h.res l hl
  · rw [lastLine_flush]
    exact (Inv_flush h).line

/-- Every cell held in the loop state, in the order of the text. -/
def cellsOf (s : WrapSt) : List RawCell := s.result.flatten ++ (s.line ++ (s.space ++ s.word))

/-- Stage by stage through the body of `wrapStep`: `wrapStep_cases` needs `1 ≤ w`, and this holds at
    every width. -/
theorem cellsOf_step (w : Int) (s : WrapSt) (m : RawCell) :
    (cellsOf (wrapStep w s m)).Sublist (cellsOf s ++ [m].filter fun m => m.letter ≠ '\n') := by
  unfold wrapStep
  split
  · next h =>
    -- a letter: neither `if` block in front of `word += m` adds a cell
    extract_lets s1 s2
    have h1 : (cellsOf s1).Sublist (cellsOf s) := by
      unfold s1
      split
      · simp [cellsOf]
      · exact .refl _
    have h2 : (cellsOf s2).Sublist (cellsOf s1) := by
      unfold s2
      split
      · simp [cellsOf]
      · exact .refl _
    have hm : m.letter ≠ '\n' := fun h0 => by rw [h0, isSpace_nl] at h; cases h
    have e : cellsOf { s2 with word := s2.word ++ [m] } = cellsOf s2 ++ [m] := by simp [cellsOf]
    rw [List.filter_cons_of_pos (by simpa using hm), e]
    exact (h2.trans h1).append_right [m]
  · -- whitespace: the flush regroups; a newline then ends the line and is itself dropped
    extract_lets s1 l
    have h1 : cellsOf s1 = cellsOf s ∧ s1.word = [] := by
      unfold s1 cellsOf
      split
      · simp
      · exact ⟨rfl, List.eq_nil_of_length_eq_zero (by omega)⟩
    rw [← h1.1]
    split
    · next hm =>
      have : l.Sublist (s1.line ++ s1.space) := by unfold l; split <;> simp
      simpa [cellsOf, hm, h1.2] using this
    · next hm => simp [cellsOf, hm, h1.2]

theorem cellsOf_foldl (w : Int) : ∀ (cells : List RawCell) (s : WrapSt),
    (cellsOf (cells.foldl (wrapStep w) s)).Sublist
      (cellsOf s ++ cells.filter fun m => m.letter ≠ '\n')
  | [], s => by simp
  | m :: ms, s => by
    have := (cellsOf_foldl w ms (wrapStep w s m)).trans ((cellsOf_step w s m).append_right _)
    rwa [List.append_assoc, ← List.filter_append] at this

theorem flatten_finalLines (s : WrapSt) (b : Bool) :
    (finalLines s b).flatten.Sublist (cellsOf s) := by
  have : (lastLine s).Sublist (s.line ++ (s.space ++ s.word)) := by
    unfold lastLine
    split
    · rw [List.append_assoc]
      exact .refl _
    · exact List.sublist_append_left _ _
  unfold finalLines cellsOf
  split
  · simpa using this
  · exact List.sublist_append_left _ _

/-- At every width.  A sublist where `dumbWrap_keeps_all` has an equality: `Wrap` also drops blanks. -/
theorem wrapLines_sublist (cells : List RawCell) (w : Int) :
    (wrapLines cells w).flatten.Sublist (cells.filter fun m => m.letter ≠ '\n') :=
  (flatten_finalLines _ _).trans (cellsOf_foldl w cells {})

theorem wrapLines_subset (cells : List RawCell) (w : Int) :
    ∀ l ∈ wrapLines cells w, ∀ x ∈ l, x ∈ cells ∧ x.letter ≠ '\n' := fun l hl x hx => by
  simpa using (wrapLines_sublist cells w).subset (List.mem_flatten.mpr ⟨l, hl, hx⟩)

theorem wrap_lines_no_newline (cells : List RawCell) (w : Int) :
    ∀ l ∈ wrapLines cells w, ∀ m ∈ l, m.letter ≠ '\n' :=
  fun l hl m hm => (wrapLines_subset cells w l hl m hm).2

end WrapP
