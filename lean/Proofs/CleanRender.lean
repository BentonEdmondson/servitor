import Proofs.CleanStyle

/-
  The HTML renderer produces clean text (mutual induction over the forest).
-/

namespace Cells
open Str Ansi Hypertext Dom

theorem clean_nl_cons (s : Str) (h : Clean s) : Clean ('\n' :: s) :=
  clean_cons '\n' (Or.inl rfl) s h

/-- One step down the `if … else if …` chain of `renderNode`. -/
theorem clean_if_fst {α : Type} (b : Prop) [Decidable b] {x y : Str × α} (hx : Clean x.1)
    (hy : Clean y.1) : Clean (if b then x else y).1 := by
  split <;> assumption

theorem clean_mergeText (l r : Str) (hl : Clean l) (hr : Clean r) : Clean (mergeText l r) := by
  have h1 := clean_trimRight isSpNl isSpNl_spec l hl
  have h2 := clean_trimLeft isSpNl isSpNl_spec r hr
  exact clean_if _ (clean_append _ _ h1 h2)
    (clean_if _ (clean_append _ _ h1 (clean_cons ' ' (Or.inr (by decide)) _ h2))
      (clean_if _ (clean_append _ _ h1 (clean_nl_cons _ h2))
        (clean_append _ _ h1 (clean_nl_cons _ (clean_nl_cons _ h2)))))

theorem clean_block (t : Str) (h : Clean t) : Clean (block t) :=
  clean_nl_cons _ (clean_nl_cons _
    (clean_append _ _ (clean_trim isSpNl isSpNl_spec t h) (clean_plain _ (by decide))))

theorem clean_getAttribute (name : Str) (attrs : List (Str × Str)) :
    Clean (getAttribute name attrs) := by
  unfold getAttribute
  split
  · exact clean_plain _ (scrub_noCtl _)
  · exact clean_nil

theorem clean_situationalWrap (t : Str) (ctx : Ctx) (h : Clean t) : Clean (situationalWrap t ctx) :=
  clean_if _ h (clean_if _ (clean_dumbWrap _ _ h) (clean_wrap _ _ h))

theorem clean_hrText (w : Int) (t : Str) (h : hrText w = .ok t) : Clean t := by
  unfold hrText at h
  split at h
  · cases h; exact clean_block _ clean_nil
  · unfold goRepeat at h
    split at h
    · cases h
    · cases h
      exact clean_block _ (clean_plain _ (noCtl_rep _ _ (by decide)))

theorem tag_noCtl (tag : Str) (h : (tag.all fun ch => !Uni.isControl ch) = true) :
    Safe.noCtl tag = true := by
  rw [noCtl_iff]
  intro c hc
  rw [List.all_eq_true] at h
  right
  simpa using h c hc

section
variable (c : Colors) (hc : ColorsOk c)
include hc

/-- `bad`: an unknown element is shown as its children between the red tag names. -/
theorem clean_bad (tag t : Str) (htag : (tag.all fun ch => !Uni.isControl ch) = true)
    (ht : Clean t) :
    Clean (Style.red c ('<' :: tag ++ ['>']) ++ t ++ Style.red c ('<' :: '/' :: tag ++ ['>'])) := by
  have red : ∀ pre : Str, Safe.noCtl pre = true → Clean (Style.red c (pre ++ (tag ++ ['>']))) :=
    fun pre hp => clean_red c hc _ (clean_plain _ (by
      rw [noCtl_append, noCtl_append]; exact ⟨hp, tag_noCtl tag htag, by decide⟩))
  exact clean_append _ _ (clean_append _ _ (red ['<'] (by decide)) ht) (red ['<', '/'] (by decide))

theorem elem_clean (tag : Str) (attrs : List (Str × Str)) (kids : List Node)
    (htag : (tag.all fun ch => !Uni.isControl ch) = true)
    (hk : ∀ ctx sl links, Clean (renderChildren c kids ctx sl links).1)
    (hb : ∀ ctx links, Clean (bulleted c kids ctx links).1) :
    ∀ ctx pl links, Clean (renderNode c (.elem tag attrs kids) ctx pl links).1 := by
  intro ctx pl links
  rw [renderNode]
  refine clean_if_fst _ (clean_if_fst _ (hk _ _ _) (clean_link c hc _ _ (hk _ _ _))) ?_
  refine clean_if_fst _ (clean_strikethrough _ (hk _ _ _)) ?_
  refine clean_if_fst _ (clean_code c hc _ (hk _ _ _)) ?_
  refine clean_if_fst _ (clean_italic _ (hk _ _ _)) ?_
  refine clean_if_fst _ (clean_bold _ (hk _ _ _)) ?_
  refine clean_if_fst _ (clean_underline _ (hk _ _ _)) ?_
  refine clean_if_fst _ (clean_highlight c hc _ (hk _ _ _)) ?_
  refine clean_if_fst _ (hk _ _ _) ?_
  refine clean_if_fst _ (clean_trim isSpNl isSpNl_spec _ (hk _ _ _)) ?_
  refine clean_if_fst _ clean_nl ?_
  refine clean_if_fst _ (clean_block _ (hk _ _ _)) ?_
  refine clean_if_fst _ (clean_block _ (clean_codeBlock c hc _
    (clean_pad _ _ (clean_situationalWrap _ _ (hk _ _ _))))) ?_
  refine clean_if_fst _ (clean_block _ (clean_quoteBlock c hc _
    (clean_trim isSpNl isSpNl_spec _ (clean_situationalWrap _ _ (hk _ _ _))))) ?_
  refine clean_if_fst _ (clean_if_fst _ (hb _ _) (clean_block _ (hb _ _))) ?_
  cases headerLevel tag with
  | some k => exact clean_block _ (clean_header c hc _ _ (clean_situationalWrap _ _ (hk _ _ _)))
  | none =>
  refine clean_if_fst _ ?_ (clean_if_fst _ ?_ ?_)
  · cases ht : hrText ctx.width with
    | ok t => exact clean_hrText _ t ht
    | error e => exact clean_nil
  · have halt : ∀ a b : Str, Clean (if (getAttribute a attrs).isEmpty then getAttribute b attrs
        else getAttribute a attrs) :=
      fun _ _ => clean_if _ (clean_getAttribute _ _) (clean_getAttribute _ _)
    exact clean_if_fst _ (clean_block _ (halt _ _))
      (clean_block _ (clean_linkBlock c hc _ _ (clean_situationalWrap _ _ (halt _ _))))
  · exact clean_bad c hc tag _ htag (hk _ _ _)

-- the linter does not see that `kids_clean` hands `hc` on to `node_clean`
set_option linter.unusedSectionVars false in
mutual

theorem node_clean : (n : Node) → tagsClean n = true →
    ∀ ctx pl links, Clean (renderNode c n ctx pl links).1
  | .other, _ => by
    intro ctx pl links
    rw [renderNode]
    exact clean_nil
  | .text d, _ => by
    intro ctx pl links
    rw [renderNode]
    exact clean_if_fst _ (clean_plain _ (scrub_noCtl _)) (clean_plain _ (scrub_noCtl _))
  | .elem tag attrs kids, h => by
    rw [tagsClean, Bool.and_eq_true] at h
    exact elem_clean c hc tag attrs kids h.1
      (fun ctx sl links => by
        rw [renderChildren]; exact kids_clean kids h.2 ctx sl links [] clean_nil)
      (fun ctx links => by
        rw [bulleted]; exact bkids_clean kids h.2 ctx links [] clean_nil)

theorem kids_clean : (kids : List Node) → tagsCleanList kids = true →
    ∀ ctx sl links acc, Clean acc → Clean (renderKids c kids ctx sl links acc).1
  | [], _ => by
    intro ctx sl links acc hacc
    rw [renderKids]
    exact hacc
  | k :: ks, h => by
    intro ctx sl links acc hacc
    rw [tagsCleanList, Bool.and_eq_true] at h
    rw [renderKids]
    exact kids_clean ks h.2 _ _ _ _ (clean_mergeText _ _ hacc (node_clean k h.1 _ _ _))

theorem bkids_clean : (kids : List Node) → tagsCleanList kids = true →
    ∀ ctx links acc, Clean acc → Clean (bulletedKids c kids ctx links acc).1
  | [], _ => by
    intro ctx links acc hacc
    rw [bulletedKids]
    exact hacc
  | .other :: ks, h | .text _ :: ks, h => by
    intro ctx links acc hacc
    rw [tagsCleanList, Bool.and_eq_true] at h
    rw [bulletedKids]
    · exact bkids_clean ks h.2 _ _ _ hacc
    · intro _ _ _ he; cases he
  | .elem tag attrs gk :: ks, h => by
    intro ctx links acc hacc
    rw [tagsCleanList, Bool.and_eq_true] at h
    have hn := node_clean (.elem tag attrs gk) h.1
    have h' := h.1
    rw [tagsClean, Bool.and_eq_true] at h'
    have hg := kids_clean gk h'.2
    rw [bulletedKids]
    refine bkids_clean ks h.2 _ _ _ (clean_append _ _ hacc
      (clean_nl_cons _ (clean_bullet _ (clean_situationalWrap _ _ (clean_if_fst _ (hn _ _ _) ?_)))))
    rw [renderChildren]
    exact clean_bad c hc tag _ h'.1 (hg _ _ _ _ clean_nil)

end

end

end Cells
