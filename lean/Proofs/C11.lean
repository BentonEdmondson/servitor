import Model

/-
  C11 (splicer: k-way newest-first merge).  `pick` is an iteration of `pstep`; `take`, `skip` and
  the trace of pops share one recursion (`pop_induction`), and `take` is read off the trace
  (`take_eq`, `popTrace_length`).
-/

namespace C11P
open Splicer

variable {C T : Type}

def total (s : List (Source C T)) : Nat := (s.map fun src => src.elements.length).sum

def heads (s : List (Source C T)) : List (Nat × T) :=
  (s.zipIdx.filterMap fun (src, i) => src.elements.head?.map fun e => (i, e))

/-- The pops of `take ts q s`, each with the index of the source it came from. -/
def popTrace (ts : T → Int) : Nat → List (Source C T) → List (Nat × T)
  | 0, _ => []
  | q + 1, s =>
    match pick ts s 0 none with
    | none => []
    | some (i, e) => (i, e) :: popTrace ts q (popAt s i)

theorem mem_heads (s : List (Source C T)) (j : Nat) (x : T) :
    (j, x) ∈ heads s ↔ ∃ src, s[j]? = some src ∧ src.elements.head? = some x := by
  simp only [heads, List.mem_filterMap, Prod.exists, List.mem_zipIdx_iff_getElem?,
    Option.map_eq_some_iff, Prod.mk.injEq]
  constructor
  · rintro ⟨src, i, hs, a, ha, rfl, rfl⟩; exact ⟨src, hs, ha⟩
  · rintro ⟨src, hs, hx⟩; exact ⟨src, j, hs, x, hx, rfl, rfl⟩

theorem mem_heads_cons (src : Source C T) (rest : List (Source C T)) (k : Nat) (x : T) :
    (k, x) ∈ heads (src :: rest) ↔
      (k = 0 ∧ src.elements.head? = some x) ∨ ∃ k', k = k' + 1 ∧ (k', x) ∈ heads rest := by
  cases k <;> simp [mem_heads]

def pstep (ts : T → Int) (hd : Option T) (i : Nat) (best : Option (Nat × T)) : Option (Nat × T) :=
  match hd, best with
  | none, _ => best
  | some e, none => some (i, e)
  | some e, some (j, b) => if ts e > ts b then some (i, e) else some (j, b)

theorem pick_cons (ts : T → Int) (src : Source C T) (rest : List (Source C T)) (i : Nat) (best : Option (Nat × T)) :
    pick ts (src :: rest) i best = pick ts rest (i + 1) (pstep ts src.elements.head? i best) := by
  rw [pick]
  rcases src.elements with _ | ⟨e, es⟩
  · rfl
  rcases best with _ | ⟨j, b⟩
  · rfl
  · dsimp only [List.head?_cons, pstep]
    split <;> rfl

theorem pstep_eq_none (ts : T → Int) (hd : Option T) (i : Nat) (best : Option (Nat × T)) :
    pstep ts hd i best = none ↔ best = none ∧ hd = none := by
  rcases hd with _ | e
  · exact (and_iff_left rfl).symm
  rcases best with _ | ⟨j, b⟩
  · exact ⟨nofun, fun h => nomatch h.2⟩
  · exact ⟨fun h => by dsimp only [pstep] at h; (split at h <;> cases h), fun h => nomatch h.1⟩

theorem pick_eq_none (ts : T → Int) (s : List (Source C T)) (i : Nat) (best : Option (Nat × T)) :
    pick ts s i best = none ↔ best = none ∧ ∀ src ∈ s, src.elements = [] := by
  induction s generalizing i best with
  | nil => simp [pick]
  | cons src rest ih => simp only [pick_cons, ih, pstep_eq_none, List.head?_eq_none_iff, List.forall_mem_cons, and_assoc]

theorem pstep_some {ts : T → Int} {hd : Option T} {i : Nat} {best : Option (Nat × T)} {w : Nat × T}
    (h : pstep ts hd i best = some w) :
    (best = some w ∧ ∀ x, hd = some x → ts x ≤ ts w.2) ∨
    (w.1 = i ∧ hd = some w.2 ∧ ∀ b, best = some b → ts b.2 < ts w.2) := by
  rcases hd with _ | e
  · exact .inl ⟨h, nofun⟩
  rcases best with _ | ⟨j, b⟩
  · cases h; exact .inr ⟨rfl, rfl, nofun⟩
  dsimp only [pstep] at h
  by_cases hgt : ts e > ts b
  · rw [if_pos hgt] at h; cases h
    exact .inr ⟨rfl, rfl, fun _ hb => by cases hb; exact hgt⟩
  · rw [if_neg hgt] at h; cases h
    exact .inl ⟨rfl, fun _ hx => by cases hx; exact Int.not_lt.mp hgt⟩

theorem pstep_lt {ts : T → Int} {hd : Option T} {i : Nat} {best : Option (Nat × T)} {t : Int}
    (h : ∀ w, pstep ts hd i best = some w → ts w.2 < t) :
    (∀ b, best = some b → ts b.2 < t) ∧ ∀ x, hd = some x → ts x < t := by
  cases hw : pstep ts hd i best with
  | none => obtain ⟨rfl, rfl⟩ := (pstep_eq_none ..).mp hw; exact ⟨nofun, nofun⟩
  | some w =>
    have ht := h w hw
    rcases pstep_some hw with ⟨rfl, h0⟩ | ⟨-, rfl, hb⟩
    · exact ⟨fun _ hb => by cases hb; exact ht, fun x hx => Int.lt_of_le_of_lt (h0 x hx) ht⟩
    · exact ⟨fun b hb' => Int.lt_trans (hb b hb') ht, fun _ hx => by cases hx; exact ht⟩

theorem pick_spec (ts : T → Int) (s : List (Source C T)) (i : Nat) (best : Option (Nat × T))
    (j : Nat) (e : T) (h : pick ts s i best = some (j, e)) :
    (∀ k x, (k, x) ∈ heads s → ts x ≤ ts e) ∧
    (best = some (j, e) ∨ ∃ k, j = i + k ∧ (k, e) ∈ heads s ∧ (∀ b, best = some b → ts b.2 < ts e) ∧
      ∀ k' x, (k', x) ∈ heads s → k' < k → ts x < ts e) := by
  induction s generalizing i best with
  | nil => exact ⟨by simp [heads], .inl h⟩
  | cons src rest ih =>
    rw [pick_cons] at h
    obtain ⟨hle, hw⟩ := ih _ _ h
    simp only [mem_heads_cons]
    -- the heads of `rest` are bounded by `hle`; it remains to bound the head of `src`
    suffices hsrc : (∀ x, src.elements.head? = some x → ts x ≤ ts e) ∧ _ from
      ⟨fun k x hkx => hkx.elim (fun h => hsrc.1 x h.2) fun ⟨k', _, hk'⟩ => hle k' x hk', hsrc.2⟩
    rcases hw with hw | ⟨k, rfl, hk, hb', hlt⟩
    · rcases pstep_some hw with ⟨hb, h0⟩ | ⟨rfl, h0, hb⟩
      · exact ⟨h0, .inl hb⟩
      · exact ⟨fun x hx => by rw [h0] at hx; cases hx; exact Int.le_refl _,
          .inr ⟨0, rfl, .inl ⟨rfl, h0⟩, hb, fun _ _ _ h => absurd h (Nat.not_lt_zero _)⟩⟩
    · obtain ⟨hb, h0⟩ := pstep_lt hb'
      refine ⟨fun x hx => Int.le_of_lt (h0 x hx), .inr ⟨k + 1, by omega, .inr ⟨k, rfl, hk⟩, hb, ?_⟩⟩
      rintro k'' x (⟨-, hx⟩ | ⟨k', rfl, hk'⟩) hlt'
      · exact h0 x hx
      · exact hlt k' x hk' (by omega)

theorem pick_top (ts : T → Int) (s : List (Source C T)) (i : Nat) (e : T)
    (h : pick ts s 0 none = some (i, e)) :
    (i, e) ∈ heads s ∧ (∀ k x, (k, x) ∈ heads s → ts x ≤ ts e) ∧
      ∀ k x, (k, x) ∈ heads s → k < i → ts x < ts e := by
  obtain ⟨hle, hw | ⟨k, hj, hk, -, hlt⟩⟩ := pick_spec ts s 0 none i e h
  · cases hw
  · obtain rfl : i = k := by omega
    exact ⟨hk, hle, hlt⟩

theorem popAt_eq_modify (s : List (Source C T)) (i : Nat) :
    popAt s i = s.modify i fun src => { src with elements := src.elements.tail } := by
  induction s generalizing i with
  | nil => exact (List.modify_nil ..).symm
  | cons a rest ih =>
    cases i with
    | zero => rfl
    | succ i => rw [popAt, ih, List.modify_succ_cons]

theorem getElem?_popAt (s : List (Source C T)) (j i : Nat) :
    (popAt s j)[i]? = s[i]?.map fun src => if j = i then { src with elements := src.elements.tail } else src := by
  rw [popAt_eq_modify, List.getElem?_modify]; rfl

theorem popAt_eq_set (s : List (Source C T)) (i : Nat) (src : Source C T) (h : s[i]? = some src) :
    popAt s i = s.set i { src with elements := src.elements.tail } := by
  obtain ⟨hi, rfl⟩ := List.getElem?_eq_some_iff.mp h
  rw [popAt_eq_modify, List.modify_eq_take_cons_drop hi, List.set_eq_take_append_cons_drop, if_pos hi]

theorem popAt_total (s : List (Source C T)) (i : Nat) (e : T) (h : (i, e) ∈ heads s) :
    total (popAt s i) + 1 = total s := by
  induction s generalizing i with
  | nil => simp [heads] at h
  | cons a rest ih =>
    rcases (mem_heads_cons ..).mp h with ⟨rfl, h0⟩ | ⟨i, rfl, h1⟩
    · obtain ⟨l, hl⟩ := List.head?_eq_some_iff.mp h0
      simp only [total, popAt, hl, List.tail_cons, List.map_cons, List.sum_cons, List.length_cons]; omega
    · have := ih i h1
      simp only [popAt, total, List.map_cons, List.sum_cons] at this ⊢; omega

theorem total_eq_zero (s : List (Source C T)) (h : ∀ src ∈ s, src.elements = []) : total s = 0 := by
  simpa [total, List.sum_eq_zero_iff_forall_eq_nat] using h

theorem take_succ (ts : T → Int) (q : Nat) (s : List (Source C T)) :
    take ts (q + 1) s =
      match pick ts s 0 none with
      | none => ([], none)
      | some (i, e) => (e :: (take ts q (popAt s i)).1, (take ts q (popAt s i)).2) := by
  rw [take, microharvest]
  rcases pick ts s 0 none with _ | ⟨i, e⟩ <;> rfl

theorem skip_succ_none (ts : T → Int) (n : Nat) (s : List (Source C T))
    (h : pick ts s 0 none = none) : skip ts (n + 1) s = skip ts n s := by
  rw [skip, microharvest, h]

theorem skip_succ_some (ts : T → Int) (n : Nat) (s : List (Source C T)) (i : Nat) (e : T)
    (h : pick ts s 0 none = some (i, e)) : skip ts (n + 1) s = skip ts n (popAt s i) := by
  rw [skip, microharvest, h]

theorem pop_induction (ts : T → Int) {motive : Nat → List (Source C T) → Prop}
    (zero : ∀ s, motive 0 s)
    (dry : ∀ q s, pick ts s 0 none = none → motive (q + 1) s)
    (pop : ∀ q s i e, pick ts s 0 none = some (i, e) → motive q (popAt s i) → motive (q + 1) s)
    (q : Nat) (s : List (Source C T)) : motive q s := by
  induction q generalizing s with
  | zero => exact zero s
  | succ q ih =>
    cases hp : pick ts s 0 none with
    | none => exact dry q s hp
    | some p => exact pop q s p.1 p.2 hp (ih _)

theorem microharvest_spec (ts : T → Int) (s : List (Source C T)) (e : T) (s' : List (Source C T))
    (h : microharvest ts s = (some e, s')) :
    ∃ i src, s[i]? = some src ∧ src.elements.head? = some e ∧
      (∀ j x, (j, x) ∈ heads s → ts x ≤ ts e) ∧
      (∀ j x, (j, x) ∈ heads s → j < i → ts x < ts e) ∧
      s' = s.set i { src with elements := src.elements.tail } := by
  rw [microharvest] at h
  split at h
  · cases h
  · next i e0 hp =>
    cases h
    obtain ⟨hi, hle, hlt⟩ := pick_top ts s i e hp
    obtain ⟨src, hs, hh⟩ := (mem_heads s i e).mp hi
    exact ⟨i, src, hs, hh, hle, hlt, popAt_eq_set s i src hs⟩

theorem microharvest_none (ts : T → Int) (s : List (Source C T)) :
    (microharvest ts s).1 = none ↔ ∀ src ∈ s, src.elements = [] := by
  have := pick_eq_none ts s 0 none
  rw [microharvest]
  split <;> simp_all only [reduceCtorEq, true_and, true_iff, false_iff, implies_true, Classical.not_forall]

/-- `take` read off the trace: the items popped, and what `skip` leaves unless a pop found the
    buffers dry. -/
theorem take_eq (ts : T → Int) (q : Nat) (s : List (Source C T)) :
    take ts q s = ((popTrace ts q s).map (·.2),
      if (popTrace ts q s).length = q then some (skip ts q s) else none) := by
  induction q, s using pop_induction ts with
  | zero s => rfl
  | dry q s hp => simp only [take_succ, popTrace, hp]; rfl
  | pop q s i e hp ih =>
    simp only [take_succ, popTrace, hp, ih, skip_succ_some ts q s i e hp, List.map_cons,
      List.length_cons, Nat.add_right_cancel_iff]

theorem popTrace_length (ts : T → Int) (q : Nat) (s : List (Source C T)) :
    (popTrace ts q s).length = min q (total s) := by
  induction q, s using pop_induction ts with
  | zero s => exact (Nat.zero_min _).symm
  | dry q s hp => rw [popTrace, hp, total_eq_zero s ((pick_eq_none ..).mp hp).2]; rfl
  | pop q s i e hp ih =>
    have := popAt_total s i e (pick_top ts s i e hp).1
    simp only [popTrace, hp, List.length_cons, ih]; omega

theorem take_some {ts : T → Int} {q : Nat} {s s' : List (Source C T)} (h : (take ts q s).2 = some s') :
    (popTrace ts q s).length = q ∧ s' = skip ts q s := by
  rw [take_eq] at h
  split at h
  · exact ⟨‹_›, (Option.some.inj h).symm⟩
  · cases h

theorem take_is_trace (ts : T → Int) (q : Nat) (s : List (Source C T)) :
    (take ts q s).1 = (popTrace ts q s).map (·.2) := by
  rw [take_eq]

theorem take_exactly_once (ts : T → Int) (q : Nat) (s : List (Source C T)) (s' : List (Source C T))
    (h : (take ts q s).2 = some s') (i : Nat) (src : Source C T) (hi : s[i]? = some src) :
    ∃ src', s'[i]? = some src' ∧
      ((popTrace ts q s).filter (fun p => p.1 = i)).map (·.2) ++ src'.elements = src.elements := by
  induction q, s using pop_induction ts generalizing src with
  | zero s => cases h; exact ⟨src, hi, rfl⟩
  | dry q s hp => simp only [take_succ, hp] at h; cases h
  | pop q s j e hp ih =>
    simp only [take_succ, hp] at h
    obtain ⟨src', h1, h2⟩ := ih h _ (by rw [getElem?_popAt, hi]; rfl)
    refine ⟨src', h1, ?_⟩
    simp only [popTrace, hp, List.filter_cons]
    by_cases hji : j = i
    · -- the popped item is the head of `src`
      subst hji
      obtain ⟨srcj, hj, hh⟩ := (mem_heads s j e).mp (pick_top ts s j e hp).1
      obtain rfl : srcj = src := Option.some.inj (hj ▸ hi)
      obtain ⟨l, hl⟩ := List.head?_eq_some_iff.mp hh
      simp only [hl, if_true, List.tail_cons] at h2
      simp only [hl, decide_true, if_true, List.map_cons, List.cons_append, h2]
    · simp only [if_neg hji] at h2
      rwa [if_neg (by simpa using hji)]

theorem take_count (ts : T → Int) (q : Nat) (s : List (Source C T)) :
    match (take ts q s).2 with
    | some _ => (take ts q s).1.length = q
    | none => (take ts q s).1.length < q ∧ (take ts q s).1.length = total s := by
  rw [take_eq]
  dsimp only
  rw [List.length_map, popTrace_length]
  by_cases h : q ≤ total s
  · rw [Nat.min_eq_left h, if_pos rfl]
  · rw [Nat.min_eq_right (Nat.le_of_not_le h), if_neg (by omega)]
    exact ⟨by omega, rfl⟩

theorem take_none_iff (ts : T → Int) (q : Nat) (s : List (Source C T)) :
    (take ts q s).2 = none ↔ total s < q := by
  rw [take_eq, popTrace_length]
  dsimp only
  split <;> simp only [reduceCtorEq, false_iff, true_iff, Nat.not_lt] <;> omega

theorem exhausted_is_none (ts : T → Int) (q : Nat) (s : List (Source C T))
    (h : total s < q) : (take ts q s).2 = none :=
  (take_none_iff ts q s).mpr h

theorem take_compose (ts : T → Int) (q₁ q₂ : Nat) (s s₁ : List (Source C T))
    (h : (take ts q₁ s).2 = some s₁) :
    (take ts (q₁ + q₂) s).1 = (take ts q₁ s).1 ++ (take ts q₂ s₁).1 ∧
    (take ts (q₁ + q₂) s).2 = (take ts q₂ s₁).2 := by
  induction q₁, s using pop_induction ts with
  | zero s => cases h; simp only [Nat.zero_add, take, List.nil_append, and_self]
  | dry q s hp => simp only [take_succ, hp] at h; cases h
  | pop q s i e hp ih =>
    simp only [take_succ, hp] at h
    simp only [Nat.add_right_comm q 1, take_succ, hp, ih h, List.cons_append, and_self]

theorem skip_take (ts : T → Int) (a q : Nat) (s : List (Source C T)) :
    (take ts (a + q) s).1.drop a = (take ts q (skip ts a s)).1 ∨ (take ts a s).2 = none := by
  cases h : (take ts a s).2 with
  | none => exact .inr rfl
  | some s₁ =>
    obtain ⟨hl, rfl⟩ := take_some h
    rw [(take_compose ts a q s _ h).1, List.drop_left' (by rw [take_is_trace, List.length_map, hl])]
    exact .inl rfl

theorem replenish_enough (hv : Hv C T) (n : Nat) (s : List (Source C T)) (i : Nat) (src : Source C T)
    (hi : s[i]? = some src) :
    ∃ src', (replenish hv n s)[i]? = some src' ∧ src.elements <+: src'.elements ∧
      (n ≤ src'.elements.length ∨ src.page = none ∨
        ∃ p, src.page = some p ∧
          (hv p (n - src.elements.length) src.basepoint).1.length < n - src.elements.length) := by
  refine ⟨_, by rw [replenish, List.getElem?_map, hi]; rfl, ?_⟩
  dsimp only
  split
  · next p hp =>
    split
    · simp only [List.prefix_append, List.length_append, true_and]
      by_cases hc : (hv p (n - src.elements.length) src.basepoint).1.length < n - src.elements.length
      · exact .inr (.inr ⟨p, hp, hc⟩)
      · exact .inl (by omega)
    · exact ⟨List.prefix_refl _, .inl (by omega)⟩
  · exact ⟨List.prefix_refl _, .inr (.inl ‹_›)⟩

end C11P
