import Model

/-
  The algebra of `splitNL` / `joinNL` / `countNL` (`strings.Split`, `strings.Join` and
  `strings.Count` on "\n"), which the layout proofs of other modules use as well; the line-level
  `centerLines`, read as `topLines ++ centred ++ botLines`, against the string-level
  `centerVertically`.
-/

namespace C16
open Str Ansi

theorem splitNL_ne_nil (s : Str) : splitNL s ≠ [] := by
  cases s with
  | nil => simp [splitNL]
  | cons c cs =>
    simp only [splitNL]
    split
    · simp
    · split <;> simp

theorem splitNL_cons_nl (cs : Str) : splitNL ('\n' :: cs) = [] :: splitNL cs := by
  cases h : splitNL cs with
  | nil => exact absurd h (splitNL_ne_nil cs)
  | cons l ls => simp [splitNL, h]

theorem splitNL_cons_ne (c : Char) (cs : Str) (hc : c ≠ '\n') :
    ∃ l ls, splitNL cs = l :: ls ∧ splitNL (c :: cs) = (c :: l) :: ls := by
  cases h : splitNL cs with
  | nil => exact absurd h (splitNL_ne_nil cs)
  | cons l ls => exact ⟨l, ls, rfl, by simp [splitNL, h, hc]⟩

theorem length_splitNL (s : Str) : (splitNL s).length = countNL s + 1 := by
  induction s with
  | nil => rfl
  | cons c cs ih =>
    by_cases hc : c = '\n'
    · subst hc; simp [splitNL_cons_nl, ih, countNL]
    · obtain ⟨l, ls, h1, h2⟩ := splitNL_cons_ne c cs hc
      simpa [h2, h1, countNL, List.count_cons_of_ne hc] using ih

theorem height_eq_length (s : Str) : height s = (splitNL s).length :=
  (length_splitNL s).symm

theorem joinNL_cons (l : Str) (ls : List Str) (h : ls ≠ []) :
    joinNL (l :: ls) = l ++ '\n' :: joinNL ls := by
  cases ls with
  | nil => contradiction
  | cons a t => rfl

theorem joinNL_splitNL (s : Str) : joinNL (splitNL s) = s := by
  induction s with
  | nil => rfl
  | cons c cs ih =>
    by_cases hc : c = '\n'
    · subst hc
      rw [splitNL_cons_nl, joinNL_cons _ _ (splitNL_ne_nil cs), ih]; rfl
    · obtain ⟨l, ls, h1, h2⟩ := splitNL_cons_ne c cs hc
      rw [h2, ← ih, h1]
      cases ls <;> rfl

theorem splitNL_noNL (s : Str) : ∀ l ∈ splitNL s, '\n' ∉ l := by
  induction s with
  | nil => simp [splitNL]
  | cons c cs ih =>
    by_cases hc : c = '\n'
    · subst hc; simpa [splitNL_cons_nl] using ih
    · obtain ⟨l, ls, h1, h2⟩ := splitNL_cons_ne c cs hc
      simp only [h1, h2, List.mem_cons, forall_eq_or_imp, not_or] at ih ⊢
      exact ⟨⟨Ne.symm hc, ih.1⟩, ih.2⟩

theorem splitNL_prepend (p s l : Str) (ls : List Str) (hp : '\n' ∉ p) (hs : splitNL s = l :: ls) :
    splitNL (p ++ s) = (p ++ l) :: ls := by
  induction p with
  | nil => exact hs
  | cons c p ih =>
    obtain ⟨l', ls', h1, h2⟩ := splitNL_cons_ne c (p ++ s) fun e => hp (by simp [e])
    rw [ih fun hx => hp (by simp [hx])] at h1
    cases h1
    exact h2

theorem splitNL_of_no_nl (s : Str) (h : '\n' ∉ s) : splitNL s = [s] := by
  simpa using splitNL_prepend s [] [] [] h rfl

theorem splitNL_append_nl (a b : Str) : splitNL (a ++ '\n' :: b) = splitNL a ++ splitNL b := by
  induction a with
  | nil => exact splitNL_cons_nl b
  | cons c a ih =>
    by_cases hc : c = '\n'
    · rw [hc, List.cons_append, splitNL_cons_nl, splitNL_cons_nl, ih, List.cons_append]
    · obtain ⟨l, ls, h1, h2⟩ := splitNL_cons_ne c a hc
      rw [h2, List.cons_append, splitNL, ih, h1, List.cons_append]
      exact if_neg hc

theorem joinNL_induction {P : Str → Prop} (nil : P [])
    (step : ∀ l s, P l → P s → P (l ++ '\n' :: s)) : ∀ ls : List Str, (∀ l ∈ ls, P l) → P (joinNL ls)
  | [], _ => nil
  | [l], h => h l (by simp)
  | l :: l' :: ls, h =>
    step _ _ (h l (by simp)) (joinNL_induction nil step (l' :: ls) fun x hx => h x (by simp [hx]))

theorem joinNL_append (a b : List Str) (ha : a ≠ []) (hb : b ≠ []) :
    joinNL (a ++ b) = joinNL a ++ '\n' :: joinNL b := by
  induction a with
  | nil => contradiction
  | cons x t ih =>
    cases t with
    | nil => exact joinNL_cons x b hb
    | cons y t' =>
      rw [List.cons_append, joinNL_cons x _ (by simp), ih (by simp), joinNL_cons x _ (by simp),
        List.append_assoc, List.cons_append]

theorem countNL_joinNL (ls : List Str) (h : ∀ l ∈ ls, '\n' ∉ l) :
    countNL (joinNL ls) = ls.length - 1 := by
  induction ls with
  | nil => rfl
  | cons l ls ih =>
    have hl : List.count '\n' l = 0 := List.count_eq_zero.mpr (h l (by simp))
    cases ls with
    | nil => exact hl
    | cons l' ls' =>
      have := ih fun x hx => h x (by simp [hx])
      simp only [countNL] at this
      simp [joinNL_cons, countNL, hl, this]

theorem joinNL_replicate_append (k : Nat) (ls : List Str) (hne : ls ≠ []) :
    joinNL (List.replicate k [] ++ ls) = rep '\n' k ++ joinNL ls := by
  induction k with
  | zero => rfl
  | succ n ih =>
    rw [List.replicate_succ, List.cons_append, joinNL_cons _ _ (by simp [hne]), ih]
    rfl

theorem joinNL_append_replicate (k : Nat) (ls : List Str) (hne : ls ≠ []) :
    joinNL (ls ++ List.replicate k []) = joinNL ls ++ rep '\n' k := by
  induction k with
  | zero => simp [rep]
  | succ n ih =>
    rw [List.replicate_succ', ← List.append_assoc, joinNL_append _ _ (by simp [hne]) (by simp), ih]
    simp [rep, List.replicate_succ', joinNL]

def topLines (pfx : List Str) (top : Nat) : List Str :=
  if top > pfx.length then List.replicate (top - pfx.length) [] ++ pfx
  else if top < pfx.length then pfx.drop (pfx.length - top) else pfx

def botLines (sfx : List Str) (bottom : Nat) : List Str :=
  if bottom > sfx.length then sfx ++ List.replicate (bottom - sfx.length) []
  else if bottom < sfx.length then sfx.take bottom else sfx

theorem centerLines_eq (p c s : List Str) (h : Nat) :
    centerLines p c s h =
      if h ≤ c.length then c.take h
      else if (h - c.length) / 2 = 0 then
        c ++ botLines s ((h - c.length) / 2 + (h - c.length) % 2)
      else topLines p ((h - c.length) / 2) ++ c ++
        botLines s ((h - c.length) / 2 + (h - c.length) % 2) := rfl

theorem length_topLines (p : List Str) (t : Nat) : (topLines p t).length = t := by
  unfold topLines
  split
  · simp only [List.length_append, List.length_replicate]; omega
  · split
    · simp only [List.length_drop]; omega
    · omega

theorem length_botLines (s : List Str) (b : Nat) : (botLines s b).length = b := by
  unfold botLines
  split
  · simp only [List.length_append, List.length_replicate]; omega
  · split
    · simp only [List.length_take]; omega
    · omega

theorem topLines_suffix (p : List Str) (t : Nat) :
    ∃ k, topLines p t <:+ (List.replicate k [] ++ p) := by
  unfold topLines
  split
  · exact ⟨t - p.length, List.suffix_refl _⟩
  · split
    · exact ⟨0, by simpa using List.drop_suffix _ _⟩
    · exact ⟨0, by simp⟩

theorem botLines_prefix (s : List Str) (b : Nat) :
    ∃ k, botLines s b <+: (s ++ List.replicate k []) := by
  unfold botLines
  split
  · exact ⟨b - s.length, List.prefix_refl _⟩
  · split
    · exact ⟨0, by simpa using List.take_prefix _ _⟩
    · exact ⟨0, by simp⟩

theorem mem_topLines (p : List Str) (t : Nat) : ∀ l ∈ topLines p t, l = [] ∨ l ∈ p := by
  intro l hl
  obtain ⟨k, hk⟩ := topLines_suffix p t
  exact (List.mem_append.mp (hk.subset hl)).imp_left List.eq_of_mem_replicate

theorem mem_botLines (s : List Str) (b : Nat) : ∀ l ∈ botLines s b, l = [] ∨ l ∈ s := by
  intro l hl
  obtain ⟨k, hk⟩ := botLines_prefix s b
  exact (List.mem_append.mp (hk.subset hl)).symm.imp_left List.eq_of_mem_replicate

theorem length_centerLines (p c s : List Str) (h : Nat) : (centerLines p c s h).length = h := by
  rw [centerLines_eq]
  split
  · simp only [List.length_take]; omega
  · split
    · simp only [List.length_append, length_botLines]; omega
    · simp only [List.length_append, length_botLines, length_topLines]; omega

theorem mem_centerLines (p c s : List Str) (h : Nat) :
    ∀ l ∈ centerLines p c s h, l = [] ∨ l ∈ p ∨ l ∈ c ∨ l ∈ s := by
  intro l hl
  have top : l ∈ topLines p ((h - c.length) / 2) → l = [] ∨ l ∈ p ∨ l ∈ c ∨ l ∈ s :=
    fun hl => (mem_topLines p _ l hl).imp_right .inl
  have mid : l ∈ c → l = [] ∨ l ∈ p ∨ l ∈ c ∨ l ∈ s := fun h => .inr (.inr (.inl h))
  have bot : l ∈ botLines s ((h - c.length) / 2 + (h - c.length) % 2) → l = [] ∨ l ∈ p ∨ l ∈ c ∨ l ∈ s :=
    fun hl => (mem_botLines s _ l hl).imp_right fun h => .inr (.inr h)
  rw [centerLines_eq] at hl
  split at hl
  · exact mid (List.mem_of_mem_take hl)
  · split at hl <;> simp only [List.mem_append] at hl
    · exact hl.elim mid bot
    · exact hl.elim (·.elim top mid) bot

theorem joinNL_topLines (P : List Str) (t : Nat) (hP : P ≠ []) :
    joinNL (topLines P t) =
      if t > P.length then rep '\n' (t - P.length) ++ joinNL P
      else if t < P.length then joinNL (P.drop (P.length - t)) else joinNL P := by
  unfold topLines
  split
  · rw [joinNL_replicate_append _ _ hP]
  · split <;> rfl

theorem joinNL_botLines (S : List Str) (b : Nat) (hS : S ≠ []) :
    joinNL (botLines S b) =
      if b > S.length then joinNL S ++ rep '\n' (b - S.length)
      else if b < S.length then joinNL (S.take b) else joinNL S := by
  unfold botLines
  split
  · rw [joinNL_append_replicate _ _ hS]
  · split <;> rfl

theorem centerVertically_eq (p c s : Str) (h : Nat) :
    centerVertically p c s h = joinNL (centerLines (splitNL p) (splitNL c) (splitNL s) h) := by
  have hP := splitNL_ne_nil p
  have hC := splitNL_ne_nil c
  have hS := splitNL_ne_nil s
  have jp := joinNL_splitNL p
  have jc := joinNL_splitNL c
  have js := joinNL_splitNL s
  simp only [centerLines_eq, centerVertically, height_eq_length]
  -- from here on only the line lists matter
  generalize splitNL p = P at *
  generalize splitNL c = C at *
  generalize splitNL s = S at *
  subst jp jc js
  by_cases h1 : h ≤ C.length
  · simp only [h1, if_true]
  · simp only [h1, if_false]
    have hb : 0 < (h - C.length) / 2 + (h - C.length) % 2 := by omega
    generalize (h - C.length) / 2 + (h - C.length) % 2 = b at hb
    generalize (h - C.length) / 2 = t
    have hB : botLines S b ≠ [] := List.ne_nil_of_length_pos (by rw [length_botLines]; exact hb)
    by_cases ht : t = 0
    · simp only [ht, if_true]
      rw [joinNL_append _ _ hC hB, joinNL_botLines _ _ hS]
    · have hT : topLines P t ≠ [] := List.ne_nil_of_length_pos (by rw [length_topLines]; omega)
      simp only [ht, if_false]
      rw [joinNL_append _ _ (by simp [hC]) hB, joinNL_append _ _ hT hC, joinNL_botLines _ _ hS,
        joinNL_topLines _ _ hP]

theorem lastIndexNL_some {s : Str} {i : Nat} (h : lastIndexNL s = some i) :
    ∃ b, s = s.take i ++ '\n' :: b := by
  unfold lastIndexNL at h
  cases hj : s.reverse.idxOf? '\n' with
  | none => simp [hj] at h
  | some j =>
    simp only [hj, Option.some.injEq] at h
    obtain ⟨hlt, hget, -⟩ := List.idxOf?_eq_some_iff.1 hj
    subst h
    rw [List.getElem_reverse] at hget
    exact ⟨_, by rw [← hget, ← List.drop_eq_getElem_cons, List.take_append_drop]⟩

theorem idxOf?_count (a : Char) (r : Str) (j : Nat) (h : r.idxOf? a = some j) :
    r.count a = (r.drop (j + 1)).count a + 1 := by
  induction r generalizing j with
  | nil => simp at h
  | cons x t ih =>
    rw [List.idxOf?_cons] at h
    by_cases hx : x = a
    · subst hx
      simp only [beq_self_eq_true, if_true, Option.some.injEq] at h
      subst h
      simp
    · have hx' : (x == a) = false := by simpa using hx
      simp only [hx', Bool.false_eq_true, if_false, Option.map_eq_some_iff] at h
      obtain ⟨j', hj', rfl⟩ := h
      rw [List.count_cons_of_ne hx, ih j' hj']
      simp

theorem squash_noNL (t : Str) : '\n' ∉ squash t := by
  unfold squash
  intro hm
  obtain ⟨c, _, hc⟩ := List.mem_map.mp hm
  split at hc
  · exact absurd hc (by decide)
  · next hne => exact hne hc

theorem length_squash (t : Str) : (squash t).length = t.length := by
  simp [squash]

end C16
