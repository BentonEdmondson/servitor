import Model

/-
  Helper lemmas for C03: header recognisers, redirect chains, the LRU cache and `get`.
-/

namespace Jtp
open Str
variable {Doc : Type}

theorem readLine_spec : ∀ {s l r : Str}, readLine s = some (l, r) → s = l ++ r ∧ 0 < l.length := by
  intro s
  fun_induction readLine s with
  | case1 | case4 => nofun
  | case2 cs => rintro _ _ ⟨⟩; simp
  | case3 c cs hc l' r' heq ih => rintro _ _ ⟨⟩; simp [(ih heq).1]

/-- The two halves of `C03.HeadersOk`, apart because `validateHeaders` carries the second as a flag:
    every Content-Type line parses to a tolerated type; there is such a line. -/
def LinesOk (tolerated : List Str) (lines : List Str) : Prop :=
  ∀ l ∈ lines, match parseContentType l with
    | .notCT => True
    | .bad => False
    | .ok m => m.matchesAny tolerated = true

def HasCT (lines : List Str) : Prop := ∃ l ∈ lines, ∃ m, parseContentType l = .ok m

theorem LinesOk_cons (tol : List Str) (l : Str) (ls : List Str) :
    LinesOk tol (l :: ls) ↔ (match parseContentType l with
      | .notCT => True
      | .bad => False
      | .ok m => m.matchesAny tol = true) ∧ LinesOk tol ls := List.forall_mem_cons

theorem HasCT_cons (l : Str) (ls : List Str) :
    HasCT (l :: ls) ↔ (∃ m, parseContentType l = .ok m) ∨ HasCT ls := by simp [HasCT]

/-- `v` is the flag `validateHeaders` carries: a tolerated Content-Type line has been seen. -/
theorem validateHeaders_iff_gen (tol : List Str) : ∀ (fuel : Nat) (s : Str) (v : Bool) (body : Str),
    validateHeaders tol fuel s v = some body ↔
      ∃ lines, splitHeaders fuel s = some (lines, body) ∧ LinesOk tol lines ∧ (v = true ∨ HasCT lines) := by
  intro fuel
  induction fuel with
  | zero => intro s v body; simp [validateHeaders, splitHeaders]
  | succ fuel ih =>
    intro s v body
    simp only [validateHeaders, splitHeaders]
    rcases readLine s with _ | ⟨line, rest⟩
    · simp
    · by_cases hb : isBlankLine line = true
      · have h1 : LinesOk tol [] := by intro _ h; cases h
        have h2 : ¬HasCT [] := fun ⟨_, h, _⟩ => List.not_mem_nil h
        cases v <;> simp [hb, h1, h2, and_assoc]
      · rcases hsp : splitHeaders fuel rest with _ | ⟨ls, bd⟩ <;>
          rcases hct : parseContentType line with _ | _ | m
        case neg.some.ok =>
          by_cases hm : m.matchesAny tol = true <;> simp [hb, ih, hsp, hct, hm, LinesOk_cons, HasCT_cons, and_assoc]
        all_goals simp [hb, ih, hsp, hct, LinesOk_cons, HasCT_cons, and_assoc]

theorem okStatuses_head {status : Str} (h : status ∈ okStatuses) : status.head? ≠ some '3' := by
  unfold okStatuses at h
  -- literals as character lists: `String.toList` on a literal is slow to evaluate
  repeat rewrite [String.toList_ofList] at h
  simp only [List.mem_cons, List.not_mem_nil, or_false] at h
  rcases h with rfl | rfl | rfl | rfl <;> decide

theorem exchange_cases {tol : List Str} {resp : Str} {o : Outcome} (h : exchange tol resp = o) :
    o = .err ∨ ∃ sl rest status, readLine resp = some (sl, rest) ∧ parseStatusLine sl = some status ∧
      ((status.head? = some '3' ∧ ∃ v, findLocation (rest.length + 1) rest = some v ∧ o = .redirect v) ∨
       (status ∈ okStatuses ∧
         ∃ body, validateHeaders tol (rest.length + 1) rest false = some body ∧ o = .doc body)) := by
  subst h
  fun_cases exchange tol resp with
  | case1 | case2 | case4 | case6 | case7 => exact .inl rfl
  | case3 sl rest hrl status hst h3 v hv => exact .inr ⟨sl, rest, status, hrl, hst, .inl ⟨h3, v, hv, rfl⟩⟩
  | case5 sl rest hrl status hst h3 hok body hv =>
    exact .inr ⟨sl, rest, status, hrl, hst, .inr ⟨by simpa using hok, body, hv, rfl⟩⟩

theorem exchange_doc_iff_validateHeaders (tol : List Str) (resp body : Str) :
    exchange tol resp = .doc body ↔
      ∃ sl rest status, readLine resp = some (sl, rest) ∧ parseStatusLine sl = some status ∧
        status ∈ okStatuses ∧ validateHeaders tol (rest.length + 1) rest false = some body := by
  constructor
  · intro h
    rcases exchange_cases h with h' | ⟨sl, rest, status, hrl, hst, ⟨_, _, _, h'⟩ | ⟨hok, _, hv, h'⟩⟩ <;> cases h'
    exact ⟨sl, rest, status, hrl, hst, hok, hv⟩
  · rintro ⟨sl, rest, status, hrl, hst, hok, hv⟩
    simp [exchange, hrl, hst, okStatuses_head hok, hok, hv]

/-- The right-hand side is the case analysis `get` makes on a miss. -/
theorem chain_iff {env : Env Doc} {tol : List Str} {u : Url} {k : Nat} {d : Doc} {src : Url} :
    Chain env tol u k d src ↔
    env.https u = true ∧
      match env.serve u with
      | none => False
      | some resp =>
        match exchange tol resp with
        | .err => False
        | .doc body => k = 0 ∧ src = u ∧ env.decode body = some d
        | .redirect v =>
          match env.resolve u v with
          | none => False
          | some t => ∃ k', k = k' + 1 ∧ Chain env tol t k' d src := by
  constructor
  · rintro (⟨_, resp, body, _, h1, h2, h3, h4⟩ | ⟨_, t, resp, v, k, _, _, h1, h2, h3, h4, h5⟩)
    · simp only [h1, h2, h3, h4, and_self]
    · simp only [h1, h2, h3, h4, true_and]; exact ⟨k, rfl, h5⟩
  · rintro ⟨h1, h⟩
    split at h
    · exact h.elim
    · rename_i resp h2
      split at h
      · exact h.elim
      · rename_i body h3
        obtain ⟨rfl, rfl, h4⟩ := h
        exact .done _ resp body d h1 h2 h3 h4
      · rename_i v h3
        split at h
        · exact h.elim
        · rename_i t h4
          obtain ⟨k, rfl, h5⟩ := h
          exact .hop _ t resp v k d src h1 h2 h3 h4 h5

theorem chain_redirect_iff {env : Env Doc} {tol : List Str} {u t : Url} {resp v : Str}
    (hh : env.https u = true) (hs : env.serve u = some resp) (he : exchange tol resp = .redirect v)
    (hr : env.resolve u v = some t) (k : Nat) (d : Doc) (src : Url) :
    Chain env tol u k d src ↔ ∃ k', k = k' + 1 ∧ Chain env tol t k' d src := by
  rw [chain_iff]
  simp only [hh, hs, he, hr, true_and]

theorem chain_doc_iff {env : Env Doc} {tol : List Str} {u : Url} {resp body : Str}
    (hh : env.https u = true) (hs : env.serve u = some resp) (he : exchange tol resp = .doc body)
    (k : Nat) (d : Doc) (src : Url) :
    Chain env tol u k d src ↔ k = 0 ∧ src = u ∧ env.decode body = some d := by
  rw [chain_iff]
  simp only [hh, hs, he, true_and]

theorem chain_functional {env : Env Doc} {tol : List Str} {u : Url} {k k' : Nat} {d d' : Doc} {s s' : Url}
    (h : Chain env tol u k d s) (h' : Chain env tol u k' d' s') : k = k' ∧ d = d' ∧ s = s' := by
  induction h generalizing k' d' s' with
  | done u resp body d h1 h2 h3 h4 =>
    obtain ⟨rfl, rfl, hd⟩ := (chain_doc_iff h1 h2 h3 _ _ _).1 h'
    rw [h4] at hd; cases hd
    exact ⟨rfl, rfl, rfl⟩
  | hop u t resp v k d src h1 h2 h3 h4 _ ih =>
    obtain ⟨k', rfl, hc⟩ := (chain_redirect_iff h1 h2 h3 h4 _ _ _).1 h'
    obtain ⟨rfl, rfl, rfl⟩ := ih hc
    exact ⟨rfl, rfl, rfl⟩

theorem chain_within_doc {env : Env Doc} {tol : List Str} {u : Url} {d0 : Doc}
    (h0 : Chain env tol u 0 d0 u) (b : Nat) (d : Doc) (src : Url) :
    (∃ k, k ≤ b ∧ Chain env tol u k d src) ↔ d0 = d ∧ u = src := by
  constructor
  · rintro ⟨k, _, h⟩; exact (chain_functional h0 h).2
  · rintro ⟨rfl, rfl⟩; exact ⟨0, Nat.zero_le _, h0⟩

/-- `hf` has the form in which a sound cache entry states a redirect. -/
theorem chain_within_redirect {env : Env Doc} {tol : List Str} {u t : Url}
    (hf : env.https u = true ∧ ∃ resp v, env.serve u = some resp ∧
      exchange tol resp = .redirect v ∧ env.resolve u v = some t) (b : Nat) (d : Doc) (src : Url) :
    (∃ k, k ≤ b ∧ Chain env tol u k d src) ↔ ∃ k, k + 1 ≤ b ∧ Chain env tol t k d src := by
  obtain ⟨hh, resp, v, hs, he, hr⟩ := hf
  simp only [chain_redirect_iff hh hs he hr]
  constructor
  · rintro ⟨_, hk, k, rfl, h⟩; exact ⟨k, hk, h⟩
  · rintro ⟨k, hk, h⟩; exact ⟨k + 1, hk, k, rfl, h⟩

theorem Cache.of_get {c c' : Cache Doc} {k : Url} {x : Option (Entry Doc)} (h : c.get k = (x, c')) :
    (∀ e ∈ c'.entries, e ∈ c.entries) ∧ ∀ e, x = some e → (k, e) ∈ c.entries := by
  unfold Cache.get at h
  split at h <;> cases h
  · rename_i e' hf
    have hm := List.mem_of_find?_eq_some hf
    have hk : e'.1 = k := by simpa using List.find?_some hf
    refine ⟨List.forall_mem_cons.2 ⟨hm, fun e he => (List.mem_filter.1 he).1⟩, fun e he => ?_⟩
    cases he; exact hk ▸ hm
  · exact ⟨fun _ he => he, fun _ he => nomatch he⟩

theorem Cache.add_mem (c : Cache Doc) (k : Url) (v : Entry Doc) :
    ∀ e, e ∈ (c.add k v).entries → e = (k, v) ∨ e ∈ c.entries := by
  intro e he
  exact (List.mem_cons.1 (List.mem_of_mem_take he)).imp_right fun h => (List.mem_filter.1 h).1

theorem sound_of_get {env : Env Doc} {tol : List Str} {c c' : Cache Doc} {u : Url}
    {x : Option (Entry Doc)} (hs : Sound env tol c) (h : c.get u = (x, c')) : Sound env tol c' :=
  fun k e he => hs k e ((Cache.of_get h).1 _ he)

theorem cacheKey_inj {tol : List Str} {u u' : Url} (h : cacheKey tol u = cacheKey tol u') : u = u' := by
  unfold cacheKey at h
  have := List.append_cancel_left h
  simpa using this

theorem append_sep_inj {α : Type} [DecidableEq α] {s : α} {a a' u u' : List α} (ha : s ∉ a) (ha' : s ∉ a')
    (h : a ++ s :: u = a' ++ s :: u') : a = a' := by
  have key : ∀ {a u : List α}, s ∉ a → (a ++ s :: u).takeWhile (· != s) = a := by
    intro a u ha
    rw [List.takeWhile_append_of_pos fun x hx => bne_iff_ne.2 fun (e : x = s) => ha (e ▸ hx),
      List.takeWhile_cons_of_neg (by simp), List.append_nil]
  rw [← key ha, h, key ha']

theorem sound_add {env : Env Doc} {tol : List Str} {c : Cache Doc} (hs : Sound env tol c)
    {u : Url} {v : Entry Doc}
    (hv : match v with
      | .doc d src => src = u ∧ Chain env tol u 0 d u
      | .redirect t => env.https u = true ∧ ∃ resp v, env.serve u = some resp ∧
          exchange tol resp = .redirect v ∧ env.resolve u v = some t) :
    Sound env tol (c.add (cacheKey tol u) v) := by
  intro k e he u' hk
  rcases Cache.add_mem c _ _ _ he with heq | hmem
  · cases heq
    cases cacheKey_inj hk
    exact hv
  · exact hs k e hmem u' hk

theorem get_spec (env : Env Doc) (tol : List Str) (b : Nat) (c : Cache Doc) (u : Url) (hs : Sound env tol c) :
   Sound env tol (get env tol b c u).cache ∧
     ∀ d src, ((get env tol b c u).res = .ok d src ↔ ∃ k, k ≤ b ∧ Chain env tol u k d src) := by
  fun_induction get env tol b c u with
  | case1 budget cache u d0 src0 cache' hget =>  -- a remembered document
    obtain ⟨rfl, hch⟩ := hs _ _ ((Cache.of_get hget).2 _ rfl) u rfl
    exact ⟨sound_of_get hs hget, fun d src => by rw [chain_within_doc hch, Res.ok.injEq]⟩
  | case2 cache u t cache' hget =>  -- a remembered redirect, budget used up
    refine ⟨sound_of_get hs hget, fun d src => ?_⟩
    rw [chain_within_redirect (hs _ _ ((Cache.of_get hget).2 _ rfl) u rfl)]
    simp
  | case3 cache u t cache' hget b ih =>  -- a remembered redirect, followed
    obtain ⟨ih1, ih2⟩ := ih (sound_of_get hs hget)
    refine ⟨ih1, fun d src => ?_⟩
    rw [chain_within_redirect (hs _ _ ((Cache.of_get hget).2 _ rfl) u rfl), ih2]
    simp
  -- from here on a miss; in the error cases `chain_iff` has no chain
  | case4 budget cache u cache' hget hh =>
    have hh' : env.https u = false := by simpa using hh
    exact ⟨sound_of_get hs hget, fun d src => by simp [chain_iff (u := u), hh']⟩
  | case5 budget cache u cache' hget hh hsv
  | case6 budget cache u cache' hget hh resp hsv he
  | case8 budget cache u cache' hget hh resp hsv body he hd
  | case9 budget cache u cache' hget hh resp hsv v he hr =>
    exact ⟨sound_of_get hs hget, fun d src => by simp [chain_iff (u := u), *]⟩
  | case7 budget cache u cache' hget hh resp hsv body he d0 hd =>  -- a document, filed
    have hch : Chain env tol u 0 d0 u := .done u resp body d0 (by simpa using hh) hsv he hd
    exact ⟨sound_add (sound_of_get hs hget) ⟨rfl, hch⟩,
      fun d src => by rw [chain_within_doc hch, Res.ok.injEq]⟩
  | case10 cache u cache' hget hh resp hsv v he t hr =>  -- a redirect, budget used up
    refine ⟨sound_of_get hs hget, fun d src => ?_⟩
    rw [chain_within_redirect ⟨by simpa using hh, resp, v, hsv, he, hr⟩]
    simp
  | case11 cache u cache' hget hh resp hsv v he t hr b r ih =>  -- a redirect, filed and followed
    have hh' : env.https u = true := by simpa using hh
    obtain ⟨ih1, ih2⟩ := ih (sound_add (sound_of_get hs hget) ⟨hh', resp, v, hsv, he, hr⟩)
    refine ⟨ih1, fun d src => ?_⟩
    show r.res = _ ↔ _
    rw [chain_within_redirect ⟨hh', resp, v, hsv, he, hr⟩, ih2]
    simp

/-- A fetch of kind `tol` only ever adds under keys of its own kind; the rest is kept, reordered
    or evicted. -/
theorem get_cache_mem (env : Env Doc) (tol : List Str) (b : Nat) (c : Cache Doc) (u : Url) :
    ∀ e, e ∈ (get env tol b c u).cache.entries → e ∈ c.entries ∨ ∃ x, e.1 = cacheKey tol x := by
  fun_induction get env tol b c u with
  | case1 budget cache u d0 src0 cache' hget
  | case2 cache u t cache' hget
  | case4 budget cache u cache' hget
  | case5 budget cache u cache' hget
  | case6 budget cache u cache' hget
  | case8 budget cache u cache' hget
  | case9 budget cache u cache' hget
  | case10 cache u cache' hget => exact fun e he => .inl ((Cache.of_get hget).1 e he)
  | case3 cache u t cache' hget b ih => exact fun e he => (ih e he).imp_left ((Cache.of_get hget).1 e)
  | case7 budget cache u cache' hget hh resp hsv body he d0 hd =>
    intro e he
    rcases Cache.add_mem _ _ _ e he with rfl | h
    · exact .inr ⟨u, rfl⟩
    · exact .inl ((Cache.of_get hget).1 e h)
  | case11 cache u cache' hget hh resp hsv v he t hr b r ih =>
    intro e he
    rcases ih e he with h | h
    · rcases Cache.add_mem _ _ _ e h with rfl | h
      · exact .inr ⟨u, rfl⟩
      · exact .inl ((Cache.of_get hget).1 e h)
    · exact .inr h

end Jtp
