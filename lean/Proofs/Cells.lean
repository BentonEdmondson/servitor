import Proofs.C16

/-
  Cells and their rendering.  `Ansi.expand`, `Cells.term` (here) and `Safe.safeF` (CleanBasic) are
  each run over `render cs` by the same induction on `cs`: a bare cell costs the scanner one step,
  a styled cell one step per attribute, one for the character and one for the reset.
-/

namespace Cells
open Str Ansi

def Digs (a : Str) : Prop := ∀ x ∈ a, x.isDigit = true ∨ x = ';'

theorem sgrOk_cons (c : Char) (t : Str) :
    sgrOk (c :: t) = true ↔ (c.isDigit = true ∧ c ≠ '0') ∧ Digs (c :: t) := by
  simp [sgrOk, Digs]

theorem sgrOk_append (pre s : Str) (hp : sgrOk pre = true)
    (hs : (s.all fun d => d.isDigit || d = ';') = true) : sgrOk (pre ++ s) = true := by
  cases pre with
  | nil => cases hp
  | cons c t =>
    simp only [sgrOk, List.cons_append, List.all_cons, List.all_append, Bool.and_eq_true] at hp ⊢
    exact ⟨hp.1, hp.2.1, hp.2.2, hs⟩

theorem sgrOk_digs {a : Str} (h : sgrOk a = true) : Digs a := by
  cases a with
  | nil => cases h
  | cons c t => exact ((sgrOk_cons c t).1 h).2

theorem sgrOk_head {a : Str} (h : sgrOk a = true) : ∃ d t, a = d :: t ∧ d ≠ '0' := by
  cases a with
  | nil => cases h
  | cons c t => exact ⟨c, t, rfl, ((sgrOk_cons c t).1 h).1.2⟩

theorem digs_zero : Digs ['0'] := by
  intro x hx
  rw [List.mem_singleton.1 hx]
  decide

theorem digs_ne_m {c : Char} (h : c.isDigit = true ∨ c = ';') : c ≠ 'm' := by
  rintro rfl
  revert h
  decide

theorem digs_ne_nl {c : Char} (h : c.isDigit = true ∨ c = ';') : c ≠ '\n' := by
  rintro rfl
  revert h
  decide

theorem cell_ok_iff (c : Cell) :
    c.ok = true ↔ c.ch ≠ ESC ∧ (∀ a ∈ c.attrs, sgrOk a = true) ∧ (c.ch ≠ '\n' ∨ c.attrs = []) := by
  simp [Cell.ok, and_assoc]

theorem attrs_of_nl {c : Cell} (hc : c.ok = true) (hn : c.ch = '\n') : c.attrs = [] :=
  ((cell_ok_iff c).1 hc).2.2.resolve_left (fun h => h hn)

def preOf (as : List Str) : Str := (as.map sgr).flatten

theorem cell_pre_eq (c : Cell) : c.pre = preOf c.attrs := rfl

@[simp] theorem preOf_nil : preOf [] = [] := rfl

theorem preOf_cons (a : Str) (as : List Str) :
    preOf (a :: as) = ESC :: '[' :: (a ++ 'm' :: preOf as) := by
  simp [preOf, sgr]

/-- The shape in which every scanner meets an attribute: `ESC [`, the parameters, `m`, the rest. -/
theorem preOf_cons_append (a : Str) (as : List Str) (s : Str) :
    preOf (a :: as) ++ s = ESC :: '[' :: (a ++ 'm' :: (preOf as ++ s)) := by
  simp [preOf_cons]

theorem preOf_length (as : List Str) : as.length ≤ (preOf as).length := by
  induction as with
  | nil => simp
  | cons a as ih => simp only [preOf_cons, List.length_cons, List.length_append]; omega

theorem render_nil : render [] = [] := rfl

theorem render_cons (c : Cell) (cs : List Cell) : render (c :: cs) = c.render ++ render cs := by
  simp [render]

theorem render_append (a b : List Cell) : render (a ++ b) = render a ++ render b := by
  simp [render]

theorem render_snoc (cs : List Cell) (c : Cell) : render (cs ++ [c]) = render cs ++ c.render := by
  simp [render]

theorem render_flatten (L : List (List Cell)) : render L.flatten = (L.map render).flatten := by
  induction L with
  | nil => rfl
  | cons l L ih => rw [List.flatten_cons, render_append, ih]; rfl

theorem render_bare (c : Cell) (h : c.attrs = []) : c.render = [c.ch] := by
  simp [Cell.render, h]

theorem render_nl (c : Cell) (hc : c.ok = true) (hn : c.ch = '\n') : c.render = ['\n'] := by
  rw [render_bare c (attrs_of_nl hc hn), hn]

theorem render_styled (c : Cell) (h : c.attrs ≠ []) : c.render = preOf c.attrs ++ c.ch :: reset := by
  simp [Cell.render, h, cell_pre_eq]

theorem render_head (c : Cell) : ∃ x t, c.render = x :: t ∧ (x ≠ ESC → t = []) := by
  by_cases has : c.attrs = []
  · exact ⟨c.ch, [], render_bare c has, fun _ => rfl⟩
  · obtain ⟨a, as, e⟩ := List.exists_cons_of_ne_nil has
    exact ⟨ESC, _, by rw [render_styled c has, e, preOf_cons]; rfl, fun h => absurd rfl h⟩

theorem render_last (c : Cell) : ∃ t x, c.render = t ++ [x] ∧ (x ≠ 'm' → t = []) := by
  by_cases has : c.attrs = []
  · exact ⟨[], c.ch, render_bare c has, fun _ => rfl⟩
  · exact ⟨preOf c.attrs ++ [c.ch, ESC, '[', '0'], 'm', by simp [render_styled c has, reset],
      fun h => absurd rfl h⟩

/-- The two shapes of a rendered cell, each with the fuel a scanner that takes one step per
    character or SGR sequence needs for it and has left for the `rest`. -/
theorem render_cases (c : Cell) (rest : Str) (fuel : Nat) (hf : (c.render ++ rest).length ≤ fuel) :
    (c.attrs = [] ∧ c.render = [c.ch] ∧ ∃ f, fuel = f + 1 ∧ rest.length ≤ f) ∨
    (c.attrs ≠ [] ∧ c.render = preOf c.attrs ++ c.ch :: reset ∧
      ∃ f, fuel = f + 1 + 1 + c.attrs.length ∧ rest.length ≤ f) := by
  rw [List.length_append] at hf
  by_cases has : c.attrs = []
  · have e := render_bare c has
    rw [e, List.length_singleton] at hf
    exact .inl ⟨has, e, fuel - 1, by omega, by omega⟩
  · have e := render_styled c has
    have hl : c.attrs.length + 5 ≤ c.render.length := by
      rw [e, List.length_append]
      exact Nat.add_le_add (preOf_length c.attrs) (Nat.le_refl 5)
    exact .inr ⟨has, e, fuel - c.attrs.length - 2, by omega, by omega⟩

theorem render_plain (s : Str) : render (plain s) = s := by
  induction s with
  | nil => rfl
  | cons c s ih => exact congrArg (c :: ·) ih

theorem plain_ok (s : Str) (h : ESC ∉ s) : ∀ c ∈ plain s, c.ok = true := by
  intro c hc
  simp only [plain, List.mem_map] at hc
  obtain ⟨x, hx, rfl⟩ := hc
  rw [cell_ok_iff]
  exact ⟨fun e => h (e ▸ hx), by simp, Or.inr rfl⟩

/-- Text that is the rendering of cells all satisfying `P`; `Canon` and `Clean` are the two
    instances, which is how they get their closure under append, split and join. -/
def Rendered (P : Cell → Prop) (s : Str) : Prop :=
  ∃ cs : List Cell, (∀ c ∈ cs, P c) ∧ s = render cs

theorem canon_eq_rendered : Canon = Rendered (·.ok = true) := rfl

theorem clean_eq_rendered : Clean = Rendered (·.clean = true) := rfl

theorem rendered_append {P : Cell → Prop} {s t : Str} (hs : Rendered P s) (ht : Rendered P t) :
    Rendered P (s ++ t) := by
  obtain ⟨a, ha, rfl⟩ := hs
  obtain ⟨b, hb, rfl⟩ := ht
  refine ⟨a ++ b, fun c hc => ?_, (render_append a b).symm⟩
  rcases List.mem_append.1 hc with h | h
  · exact ha c h
  · exact hb c h

theorem reset_not_prefix (cs : List Cell) (h : ∀ c ∈ cs, c.ok = true) :
    reset.isPrefixOf (render cs) = false := by
  cases cs with
  | nil => rfl
  | cons c cs =>
    have hc := (cell_ok_iff c).1 (h c (by simp))
    rw [render_cons]
    cases has : c.attrs with
    | nil =>
      rw [render_bare c has]
      have : ESC ≠ c.ch := fun e => hc.1 e.symm
      simp [reset, List.isPrefixOf, this]
    | cons a as =>
      rw [render_styled c (by simp [has]), has, preOf_cons]
      obtain ⟨d, t, rfl, hd0⟩ := sgrOk_head (hc.2.1 a (by simp [has]))
      have : '0' ≠ d := fun e => hd0 e.symm
      simp [reset, List.isPrefixOf, this]

theorem splitAtM_digs (a r : Str) (h : Digs a) : splitAtM (a ++ 'm' :: r) = some (a, r) := by
  induction a with
  | nil => simp [splitAtM]
  | cons c a ih =>
    have hc := List.forall_mem_cons.1 h
    simp [splitAtM, digs_ne_m hc.1, ih hc.2]

theorem takePre_stop (fuel : Nat) (ch : Char) (rest : Str) (h : ch ≠ ESC) :
    takePre fuel (ch :: rest) = ([], ch :: rest) := by
  cases fuel with
  | zero => rfl
  | succ f =>
    cases rest with
    | nil => rfl
    | cons b t => simp [takePre, h]

theorem takePre_pre (as : List Str) (has : ∀ a ∈ as, Digs a) (ch : Char) (hch : ch ≠ ESC)
    (rest : Str) : ∀ fuel, as.length ≤ fuel →
      takePre fuel (preOf as ++ ch :: rest) = (preOf as, ch :: rest) := by
  induction as with
  | nil => intro fuel _; exact takePre_stop fuel ch rest hch
  | cons a as ih =>
    intro fuel hf
    cases fuel with
    | zero => simp at hf
    | succ f =>
      have has' := List.forall_mem_cons.1 has
      rw [preOf_cons_append, takePre]
      simp only [and_self, if_true]
      rw [splitAtM_digs _ _ has'.1]
      simp only [ih has'.2 f (by simpa using hf)]
      simp [preOf_cons]

theorem expandF_cell (c : Cell) (hc : c.ok = true) (cs : List Cell) (h : ∀ x ∈ cs, x.ok = true)
    (f : Nat) : expandF (f + 1) (c.render ++ render cs) = c.raw :: expandF f (render cs) := by
  have hc := (cell_ok_iff c).1 hc
  rw [expandF, Cell.raw, cell_pre_eq]
  by_cases has : c.attrs = []
  · rw [render_bare c has, has]
    simp [takePre_stop _ c.ch _ hc.1, reset_not_prefix cs h]
  · rw [render_styled c has, List.append_assoc, List.cons_append,
      takePre_pre c.attrs (fun a ha => sgrOk_digs (hc.2.1 a ha)) c.ch hc.1 _ _
        (Nat.le_trans (preOf_length _) (by simp))]
    simp [reset]

theorem expandF_render (cs : List Cell) (h : ∀ c ∈ cs, c.ok = true) :
    ∀ fuel, (render cs).length ≤ fuel → expandF fuel (render cs) = cs.map Cell.raw := by
  induction cs with
  | nil => intro fuel _; cases fuel <;> rfl
  | cons c cs ih =>
    intro fuel hf
    have h' := List.forall_mem_cons.1 h
    have hpos : 0 < c.render.length := by
      obtain ⟨x, t, e, -⟩ := render_head c
      rw [e]
      exact Nat.succ_pos _
    rw [render_cons] at hf ⊢
    rw [List.length_append] at hf
    cases fuel with
    | zero => omega
    | succ f =>
      rw [expandF_cell c h'.1 cs h'.2, ih h'.2 f (by omega)]
      rfl

theorem expand_render (cs : List Cell) (h : ∀ c ∈ cs, c.ok = true) :
    expand (render cs) = cs.map Cell.raw :=
  expandF_render cs h _ (Nat.le_refl _)

theorem addAttr_ok (c : Cell) (a : Str) (hc : c.ok = true) (ha : sgrOk a = true) :
    (addAttr a c).ok = true := by
  unfold addAttr
  split
  · exact hc
  · rename_i hn
    rw [cell_ok_iff] at hc ⊢
    exact ⟨hc.1, List.forall_mem_cons.2 ⟨ha, hc.2.1⟩, Or.inl hn⟩

theorem apply_cell (c : Cell) (hc : c.ok = true) (a : Str) :
    (if c.raw.letter = '\n' then ['\n']
      else ESC :: '[' :: (a ++ 'm' :: (c.raw.pre ++ c.raw.letter :: reset)))
      = (addAttr a c).render := by
  by_cases hn : c.ch = '\n'
  · simp [Cell.raw, addAttr, hn, Cell.render, attrs_of_nl hc hn]
  · simp [Cell.raw, addAttr, hn, Cell.render, Cell.pre, sgr]

theorem apply_render (cs : List Cell) (h : ∀ c ∈ cs, c.ok = true) (a : Str) :
    apply (render cs) a = render (cs.map (addAttr a)) := by
  rw [apply, expand_render cs h, render, List.map_map, List.map_map]
  refine congrArg List.flatten (List.map_congr_left fun c hc => ?_)
  rw [Function.comp_apply, Function.comp_apply]
  exact apply_cell c (h c hc) a

theorem indent_cell (c : Cell) (hc : c.ok = true) (pfx : Str) :
    (if c.raw.letter = '\n' then '\n' :: pfx else c.raw.full)
      = render (if c.ch = '\n' then c :: plain pfx else [c]) := by
  by_cases hn : c.ch = '\n'
  · simp [Cell.raw, hn, render_cons, render_plain, render_bare c (attrs_of_nl hc hn)]
  · simp [Cell.raw, hn, render_cons, render_nil]

theorem sgrParams_digs (a r : Str) (h : Digs a) : sgrParams (a ++ 'm' :: r) = some (a, r) := by
  induction a with
  | nil => simp [sgrParams]
  | cons c a ih =>
    have hc := List.forall_mem_cons.1 h
    have hd : (c.isDigit || decide (c = ';')) = true := by
      rcases hc.1 with h | h <;> simp [h]
    simp [sgrParams, digs_ne_m hc.1, ih hc.2, hd]

theorem termRun_char (f : Nat) (ch : Char) (hch : ch ≠ ESC) (s : Str) (act : List Str) :
    termRun (f + 1) (ch :: s) act = ((ch, act) :: (termRun f s act).1, (termRun f s act).2) := by
  simp [termRun, hch]

theorem termRun_sgr (f : Nat) (a : Str) (ha : Digs a) (hne : a ≠ []) (s : Str) (act : List Str) :
    termRun (f + 1) (ESC :: '[' :: (a ++ 'm' :: s)) act
      = termRun f s (if a = ['0'] then [] else act ++ [a]) := by
  rw [termRun]
  simp only [if_true]
  rw [sgrParams_digs _ _ ha]
  by_cases h0 : a = ['0'] <;> simp [h0, hne]

theorem termRun_reset (f : Nat) (s : Str) (act : List Str) :
    termRun (f + 1) (reset ++ s) act = termRun f s [] := by
  have := termRun_sgr f ['0'] digs_zero (by simp) s act
  rwa [if_pos rfl] at this

theorem termRun_pre (as : List Str) (has : ∀ a ∈ as, sgrOk a = true) (s : Str) (f : Nat) :
    ∀ act, termRun (f + as.length) (preOf as ++ s) act = termRun f s (act ++ as) := by
  induction as with
  | nil => intro act; simp
  | cons a as ih =>
    intro act
    have has' := List.forall_mem_cons.1 has
    obtain ⟨d, t, rfl, hd0⟩ := sgrOk_head has'.1
    have h0 : d :: t ≠ ['0'] := fun h => hd0 (List.cons.inj h).1
    rw [preOf_cons_append, List.length_cons, ← Nat.add_assoc,
      termRun_sgr _ _ (sgrOk_digs has'.1) (List.cons_ne_nil _ _), if_neg h0, ih has'.2,
      List.append_assoc]
    rfl

theorem termRun_render (cs : List Cell) (h : ∀ c ∈ cs, c.ok = true) :
    ∀ fuel, (render cs).length ≤ fuel →
      termRun fuel (render cs) [] = (cs.map fun c => (c.ch, c.attrs), []) := by
  induction cs with
  | nil =>
    intro fuel _
    cases fuel <;> rfl
  | cons c cs ih =>
    intro fuel hf
    have h' := List.forall_mem_cons.1 h
    have hc := (cell_ok_iff c).1 h'.1
    rw [render_cons] at hf ⊢
    rcases render_cases c _ fuel hf with ⟨has, e, f, rfl, hf'⟩ | ⟨_, e, f, rfl, hf'⟩
    · rw [e, List.singleton_append, termRun_char f c.ch hc.1, ih h'.2 f hf', List.map_cons, has]
    · rw [e, List.append_assoc, List.cons_append, termRun_pre c.attrs hc.2.1,
        termRun_char _ c.ch hc.1, termRun_reset, ih h'.2 f hf', List.nil_append]
      rfl

theorem term_render (cs : List Cell) (h : ∀ c ∈ cs, c.ok = true) :
    term (render cs) = (cs.map fun c => (c.ch, c.attrs), []) :=
  termRun_render cs h _ (Nat.le_refl _)

theorem nl_not_mem_pre (as : List Str) (has : ∀ a ∈ as, Digs a) : '\n' ∉ preOf as := by
  induction as with
  | nil => simp
  | cons a as ih =>
    rw [preOf_cons]
    have h1 : '\n' ∉ a := fun hx => digs_ne_nl (has a (by simp) _ hx) rfl
    have h2 := ih (fun x hx => has x (by simp [hx]))
    have h3 : '\n' ≠ ESC := by decide
    simp [h1, h2, h3]

theorem nl_not_mem_render (c : Cell) (hc : c.ok = true) (hn : c.ch ≠ '\n') : '\n' ∉ c.render := by
  have hc' := (cell_ok_iff c).1 hc
  by_cases has : c.attrs = []
  · rw [render_bare c has]
    simpa using fun e => hn e.symm
  · rw [render_styled c has]
    have h1 := nl_not_mem_pre c.attrs (fun a ha => sgrOk_digs (hc'.2.1 a ha))
    have h2 : '\n' ≠ c.ch := fun e => hn e.symm
    have h3 : '\n' ≠ ESC := by decide
    simp [h1, h2, h3, reset]

theorem nl_not_mem_render_list (cs : List Cell) (h : ∀ c ∈ cs, c.ok = true)
    (hn : ∀ c ∈ cs, c.ch ≠ '\n') : '\n' ∉ render cs := by
  induction cs with
  | nil => simp [render_nil]
  | cons c cs ih =>
    have h := List.forall_mem_cons.1 h
    have hn := List.forall_mem_cons.1 hn
    rw [render_cons, List.mem_append, not_or]
    exact ⟨nl_not_mem_render c h.1 hn.1, ih h.2 hn.2⟩

/-- A newline cell ends a line; any other cell's rendering has no newline and goes whole into the
    current line. -/
theorem rendered_splitNL {P : Cell → Prop} (hP : ∀ c, P c → c.ok = true) {s : Str}
    (h : Rendered P s) : ∀ l ∈ splitNL s, Rendered P l := by
  obtain ⟨cs, hcs, rfl⟩ := h
  induction cs with
  | nil =>
    intro l hl
    exact ⟨[], hcs, List.mem_singleton.1 hl⟩
  | cons c cs ih =>
    have hcs := List.forall_mem_cons.1 hcs
    have ih := ih hcs.2
    have hc := hP c hcs.1
    rw [render_cons]
    by_cases hn : c.ch = '\n'
    · rw [render_nl c hc hn, List.singleton_append, C16.splitNL_cons_nl]
      exact List.forall_mem_cons.2 ⟨⟨[], nofun, rfl⟩, ih⟩
    · cases hsp : splitNL (render cs) with
      | nil => exact absurd hsp (C16.splitNL_ne_nil _)
      | cons l0 ls =>
        rw [hsp] at ih
        rw [C16.splitNL_prepend _ _ l0 ls (nl_not_mem_render c hc hn) hsp]
        obtain ⟨⟨cs', hs, rfl⟩, htl⟩ := List.forall_mem_cons.1 ih
        exact List.forall_mem_cons.2
          ⟨⟨c :: cs', List.forall_mem_cons.2 ⟨hcs.1, hs⟩, (render_cons c cs').symm⟩, htl⟩

theorem rendered_joinNL {P : Cell → Prop} (hnl : P ⟨[], '\n'⟩) (ls : List Str)
    (h : ∀ l ∈ ls, Rendered P l) : Rendered P (joinNL ls) :=
  C16.joinNL_induction ⟨[], by simp, rfl⟩
    (fun _ s hl hs => rendered_append hl
      (rendered_append (s := ['\n']) ⟨[⟨[], '\n'⟩], by simpa using hnl, rfl⟩ hs)) ls h

end Cells
