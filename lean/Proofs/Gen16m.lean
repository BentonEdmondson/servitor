import Model.Main
import Generated.GoMain
import Proofs.Cells

/-
  For `Props/Gen16m.lean`: `strings.ReplaceAll(s, "\n", "\r\n")` as `Main.crlf`, the shape of
  `Main.crlf s`, the translated step functions of main.go on the forms of input the theorems there
  need, and that clean text holds no carriage return.
-/

namespace Gen16mP
open Go.Term

theorem str_empty : Go.str "" = [] := rfl
theorem str_prefix : Go.str "\x1b[0;0H\x1b[2J" = Main.home ++ Main.clear := by
  unfold Go.str Main.home Main.clear
  rw [← String.toList_append]
  rfl

theorem crlf_nil : Main.crlf [] = [] := rfl
theorem crlf_nl (cs : Str) : Main.crlf ('\n' :: cs) = '\r' :: '\n' :: Main.crlf cs := rfl
theorem crlf_other (c : Char) (cs : Str) (hc : c ≠ '\n') : Main.crlf (c :: cs) = c :: Main.crlf cs :=
  if_neg hc

theorem nl_induction {P : Str → Prop} (nil : P []) (nl : ∀ cs, P cs → P ('\n' :: cs))
    (other : ∀ c cs, c ≠ '\n' → P cs → P (c :: cs)) : ∀ s, P s
  | [] => nil
  | c :: cs =>
    if hc : c = '\n' then hc ▸ nl cs (nl_induction nil nl other cs)
    else other c cs hc (nl_induction nil nl other cs)

theorem replaceAllF_crlf : ∀ (fuel : Nat) (s : Str), s.length ≤ fuel →
    Go.Strings.replaceAllF ['\n'] ['\r', '\n'] fuel s = Main.crlf s
  | 0, [], _ => rfl
  | _ + 1, [], _ => rfl
  | n + 1, c :: cs, h => by
    have ih := replaceAllF_crlf n cs (Nat.le_of_succ_le_succ h)
    by_cases hc : c = '\n'
    · subst hc; simp [Go.Strings.replaceAllF, crlf_nl, ih]
    · simp [Go.Strings.replaceAllF, crlf_other c cs hc, ih, Ne.symm hc]

theorem replaceAll_crlf (s : Str) :
    Go.Strings.replaceAll s (Go.str "\n") (Go.str "\r\n") = Main.crlf s :=
  replaceAllF_crlf _ _ (Nat.le_succ _)

theorem crlf_head (s : Str) : (Main.crlf s).head? ≠ some '\n' := by
  induction s using nl_induction with
  | nil => decide
  | nl cs => simp [crlf_nl]
  | other c cs hc => rw [crlf_other c cs hc]; simpa using hc

theorem crlf_countNL (s : Str) : Str.countNL (Main.crlf s) = Str.countNL s := by
  induction s using nl_induction with
  | nil => rfl
  | nl cs ih => simp only [Str.countNL] at ih; simp [crlf_nl, Str.countNL, ih]
  | other c cs hc ih =>
    simp only [Str.countNL] at ih
    simp [crlf_other c cs hc, Str.countNL, ih, List.count_cons_of_ne hc]

theorem crlf_mem (s : Str) (ch : Char) (h : ch ∈ Main.crlf s) : ch = '\r' ∨ ch ∈ s := by
  induction s using nl_induction with
  | nil => cases h
  | nl cs ih =>
    rw [crlf_nl] at h
    simp only [List.mem_cons] at h ⊢
    rcases h with h | h | h
    · exact .inl h
    · exact .inr (.inl h)
    · exact (ih h).imp_right .inr
  | other c cs hc ih =>
    rw [crlf_other c cs hc] at h
    simp only [List.mem_cons] at h ⊢
    rcases h with h | h
    · exact .inr (.inl h)
    · exact (ih h).imp_right .inr

theorem printRaw_ok (frame : Str) :
    GenMain.printRaw none frame = .ok [Act.write (Go.str "\x1b[0;0H\x1b[2J" ++ Go.Strings.replaceAll frame (Go.str "\n") (Go.str "\r\n"))] := rfl

theorem printRaw_eq (frame : Str) :
    GenMain.printRaw none frame = .ok [Act.write (Main.printRaw frame)] := by
  rw [printRaw_ok, replaceAll_crlf, str_prefix]
  rfl

theorem pollStep_eq (v : GenMain.PollVars) (got : SizeResult) :
    GenMain.pollStep v got = (Main.pollStep got).map fun acts => ⟨v, acts, false⟩ := by
  obtain ⟨w, h, e⟩ := got
  cases e <;> rfl

theorem pollStep_ok (v : GenMain.PollVars) (w h : Int) :
    GenMain.pollStep v ⟨w, h, none⟩
      = .ok ⟨v, [Act.sleep 25000000, Act.getSize, Act.setWidthHeight w h], false⟩ := rfl

theorem pollStep_err (v : GenMain.PollVars) (w h : Int) (e : Str) :
    GenMain.pollStep v ⟨w, h, some e⟩ = .error (.explicit "panic(err)") := rfl

/-- One round of the key loop, whatever the buffer: the byte handled is the one the buffer holds
    at index 0 after the read, and what is done with it is `Main.keyStep`. -/
theorem keyStep_of_index (v : GenMain.KeyVars) (read : List Nat) (x : Nat)
    (hi : Go.index (Go.Term.readInto v.buffer read) 0 = .ok x) :
    GenMain.keyStep v read none
      = .ok ⟨⟨Go.Term.readInto v.buffer read⟩, (Main.keyStep x).1, (Main.keyStep x).2⟩ := by
  simp only [GenMain.keyStep, hi, str_empty, printRaw_eq, Main.keyStep, bind, Except.bind, pure, Except.pure]
  by_cases h3 : x = 3 <;> simp [h3]

theorem keyStep_eq (b0 : Nat) (read : List Nat) :
    GenMain.keyStep ⟨[b0]⟩ read none
      = .ok ⟨⟨[read.head?.getD b0]⟩, (Main.keyStep (read.head?.getD b0)).1, (Main.keyStep (read.head?.getD b0)).2⟩ := by
  have hb : Go.Term.readInto [b0] read = [read.head?.getD b0] := by
    cases read with
    | nil => rfl
    | cons x xs => simp [Go.Term.readInto, Go.copy]
  rw [keyStep_of_index ⟨[b0]⟩ read _ (by rw [hb]; rfl), hb]

theorem keyStep_short (b0 : Nat) :
    GenMain.keyStep ⟨[b0]⟩ [] none = GenMain.keyStep ⟨[b0]⟩ [b0] none := by
  rw [keyStep_eq, keyStep_eq]; rfl

theorem keyStep_shape (v : GenMain.KeyVars) (read : List Nat) (st : Step GenMain.KeyVars)
    (h : GenMain.keyStep v read none = .ok st) :
    (st.acts = [Act.write (Main.printRaw [])] ∧ st.done = true) ∨
      ∃ b, st.acts = [Act.update b true] ∧ st.done = false := by
  cases hi : Go.index (Go.Term.readInto v.buffer read) 0 with
  | error e => simp only [GenMain.keyStep, hi, bind, Except.bind] at h; cases h
  | ok x =>
    rw [keyStep_of_index v read x hi] at h
    cases h
    by_cases h3 : x = 3
    · exact .inl (by simp [Main.keyStep, h3])
    · exact .inr ⟨x, by simp [Main.keyStep, h3]⟩

theorem start_vars (a0 a1 a2 : Str) (rest : List Str) (w h : Int) :
    ∃ st, GenMain.start (a0 :: a1 :: a2 :: rest) none ⟨w, h, none⟩ = .ok st ∧
      st.keyVars = some ⟨[0]⟩ ∧ st.pollVars = some ⟨⟩ ∧ st.subVars = some ⟨none⟩ ∧
      Act.newState w h "printRaw" ∈ st.acts := by
  have hl : decide (Go.len (a0 :: a1 :: a2 :: rest) < 3) = false :=
    decide_eq_false (by simp only [Go.len, List.length_cons]; omega)
  simp only [GenMain.start, hl]
  exact ⟨_, rfl, rfl, rfl, rfl, by simp⟩

theorem setWidthHeight_eq (s : GenView.State) (w h : Int) :
    GenMain.SetWidthHeight s w h
      = .ok (if s.width = w ∧ s.height = h then (s, [])
             else ({ s with width := w, height := h }, [{ s with width := w, height := h }])) := by
  simp only [GenMain.SetWidthHeight, ← Bool.decide_and]
  by_cases hc : s.width = w ∧ s.height = h
  · simp only [hc]; rfl
  · simp only [hc, decide_false]; rfl

/-
  Clean text has no carriage return: a text is the concatenation of its cells, a cell's prefix that
  of its SGR sequences, and a character of the whole is a character of one piece.
-/

theorem cr_not_mem_pre (as : List Str) (has : ∀ a ∈ as, Cells.Digs a) : '\r' ∉ Cells.preOf as := by
  rw [Cells.preOf, ← List.flatMap_def, List.mem_flatMap]
  rintro ⟨a, ha, h⟩
  have h1 : '\r' ∉ a := fun hx => absurd (has a ha _ hx) (by decide)
  have h3 : '\r' ≠ Str.ESC := by decide
  simp [Cells.sgr, h1, h3] at h

theorem cr_not_mem_render (c : Cells.Cell) (hc : c.clean = true) : '\r' ∉ c.render := by
  simp only [Cells.Cell.clean, Bool.and_eq_true, Bool.or_eq_true, decide_eq_true_eq,
    Bool.not_eq_true'] at hc
  have hn : '\r' ≠ c.ch := by
    intro e
    rw [← e] at hc
    exact absurd hc.2 (by decide)
  by_cases has : c.attrs = []
  · rw [Cells.render_bare c has]
    simpa using hn
  · rw [Cells.render_styled c has]
    have h1 := cr_not_mem_pre c.attrs fun a ha =>
      Cells.sgrOk_digs (((Cells.cell_ok_iff c).1 hc.1).2.1 a ha)
    have h3 : '\r' ≠ Str.ESC := by decide
    simp [h1, hn, h3, Ansi.reset]

theorem clean_no_cr (s : Str) (h : Cells.Clean s) : '\r' ∉ s := by
  obtain ⟨cs, hcs, rfl⟩ := h
  rw [Cells.render, ← List.flatMap_def, List.mem_flatMap]
  rintro ⟨c, hc, hr⟩
  exact cr_not_mem_render c (hcs c hc) hr

end Gen16mP
