import Proofs.WrapWidth

/-
  `ansi.Wrap` keeps the visible characters and never removes a line break between two of them.

  Both follow from one relation between the text read so far and the text held in the loop state
  (`Keeps`): the state's text is the input with blanks deleted, line breaks inserted and newline
  cells replaced by the plain newline cell.  This file establishes the relation and reads the
  visible characters off it; `Proofs.WrapBreaks` reads off the line breaks.
-/

namespace WrapP
open Str Ansi AnsiSpec

def nlC : RawCell := ⟨[], '\n', ['\n']⟩

def relinesP : List (List RawCell) → List RawCell
  | [] => []
  | [l] => l
  | l :: ls => l ++ nlC :: relinesP ls

def preL (R : List (List RawCell)) : List RawCell := (R.map (· ++ [nlC])).flatten

theorem preL_nil : preL [] = [] := rfl

theorem preL_snoc (R : List (List RawCell)) (l : List RawCell) :
    preL (R ++ [l]) = preL R ++ l ++ [nlC] := by
  simp [preL]

theorem relinesP_snoc (R : List (List RawCell)) (x : List RawCell) :
    relinesP (R ++ [x]) = preL R ++ x := by
  induction R with
  | nil => rfl
  | cons l R ih =>
    cases R with
    | nil => simp [relinesP, preL]
    | cons l' R' => show l ++ nlC :: relinesP ((l' :: R') ++ [x]) = _; rw [ih]; simp [preL]

/-- The text held in the loop state. -/
def flat (s : WrapSt) : List RawCell := preL s.result ++ (s.line ++ (s.space ++ s.word))

theorem flat_flush (s : WrapSt) : flat (flush s) = flat s := by
  unfold flush
  split
  · simp [flat]
  · rfl

theorem visible_append (a b : List RawCell) : visible (a ++ b) = visible a ++ visible b := by
  simp [visible]

theorem visible_nil : visible [] = [] := rfl

theorem visible_spaces {sp : List RawCell} (h : ∀ m ∈ sp, Uni.isSpace m.letter = true) :
    visible sp = [] := by
  simp only [visible, List.map_eq_nil_iff, List.filter_eq_nil_iff]
  intro m hm
  simp [h m hm]

theorem Inv.spaces {w : Int} {s : WrapSt} (h : Inv w s) :
    ∀ m ∈ s.space, Uni.isSpace m.letter = true := fun m hm => (h.spc m hm).1

/-- What `visible` and `gaps` read of a text: blanks go, a newline cell loses its styling. -/
def skel (x : List RawCell) : List RawCell :=
  x.flatMap fun m => if m.letter = '\n' then [nlC] else if Uni.isSpace m.letter then [] else [m]

theorem skel_append (x y : List RawCell) : skel (x ++ y) = skel x ++ skel y := List.flatMap_append

/-- `y` has the visible characters of `x`, and between them the line breaks of `x` and perhaps
    more. -/
def Keeps (x y : List RawCell) : Prop := (skel x).Sublist (skel y) ∧ visible x = visible y

theorem Keeps_append {x y x' y' : List RawCell} (h1 : Keeps x y) (h2 : Keeps x' y') :
    Keeps (x ++ x') (y ++ y') :=
  ⟨by rw [skel_append, skel_append]; exact h1.1.append h2.1,
    by rw [visible_append, visible_append, h1.2, h2.2]⟩

theorem Keeps_trans {x y z : List RawCell} (h1 : Keeps x y) (h2 : Keeps y z) : Keeps x z :=
  ⟨h1.1.trans h2.1, h1.2.trans h2.2⟩

theorem Keeps_refl (x : List RawCell) : Keeps x x := ⟨.refl _, rfl⟩

theorem Keeps_brk : Keeps [] [nlC] := ⟨by simp [skel], by simp [visible, nlC, isSpace_nl]⟩

theorem Keeps_nl {m : RawCell} (hm : m.letter = '\n') : Keeps [m] [nlC] :=
  ⟨by simp [skel, nlC, hm], by simp [visible, nlC, hm, isSpace_nl]⟩

theorem Keeps_blanks {sp : List RawCell}
    (h : ∀ m ∈ sp, Uni.isSpace m.letter = true ∧ m.letter ≠ '\n') : Keeps sp [] := by
  have : skel sp = [] := by
    simp only [skel, List.flatMap_eq_nil_iff]
    exact fun m hm => by simp [h m hm]
  exact ⟨this ▸ List.nil_sublist _, visible_spaces fun m hm => (h m hm).1⟩

theorem Keeps_step {w : Int} (hw : 1 ≤ w) {s : WrapSt} (m : RawCell) (h : Inv w s) :
    Keeps (flat s ++ [m]) (flat (wrapStep w s m)) := by
  have pre := Keeps_refl (preL s.result)
  rcases wrapStep_cases hw s m with ⟨hm, e⟩ | ⟨hm, hf, e⟩ | ⟨hm, hf, hp, e⟩ | ⟨hm, hf, hp, e⟩
  · rw [e, ← flat_flush s]
    have hfl := Inv_flush h
    have hw0 := flush_word s
    generalize flush s = t at hfl hw0
    have pre := Keeps_refl (preL t.result)
    unfold spStep
    split
    · split
      · simp only [flat, preL_snoc, hw0, List.append_assoc, List.append_nil]
        exact Keeps_append pre (Keeps_append (Keeps_refl _) (Keeps_append (Keeps_refl _) (Keeps_nl ‹_›)))
      · -- the blanks at the end of an over-long line are dropped
        simp only [flat, preL_snoc, hw0, List.append_assoc, List.append_nil]
        exact Keeps_append pre (Keeps_append (Keeps_refl _)
          (by simpa using Keeps_append (Keeps_blanks hfl.spc) (Keeps_nl ‹_›)))
    · simp only [flat, hw0, List.append_assoc, List.append_nil]
      exact Keeps_refl _
  · -- `line` and `space` are empty: a break goes between the full word and `m`
    obtain ⟨h1, h2⟩ := Inv_full_line hw h hf
    simp only [e, flat, preL_snoc, h1, h2, List.append_assoc, List.nil_append]
    exact Keeps_append pre (Keeps_append (Keeps_refl _) (Keeps_append Keeps_brk (Keeps_refl [m])))
  · -- the blanks before the word give way to a break
    simp only [e, flat, preL_snoc, List.append_assoc, List.nil_append]
    exact Keeps_append pre (Keeps_append (Keeps_refl _)
      (Keeps_append (by simpa using Keeps_append (Keeps_blanks h.spc) Keeps_brk) (Keeps_refl _)))
  · simp only [e, flat, List.append_assoc]
    exact Keeps_refl _

theorem Keeps_foldl {w : Int} (hw : 1 ≤ w) (cells : List RawCell) :
    ∀ (pre : List RawCell) (s : WrapSt), Inv w s → Keeps pre (flat s) →
      Keeps (pre ++ cells) (flat (cells.foldl (wrapStep w) s)) := by
  induction cells with
  | nil => intro pre s _ h; simpa using h
  | cons m ms ih =>
    intro pre s hi h
    have := ih (pre ++ [m]) _ (Inv_step hw m hi)
      (Keeps_trans (Keeps_append h (Keeps_refl [m])) (Keeps_step hw m hi))
    simpa using this

theorem flat_final {w : Int} {s : WrapSt} (h : Inv w s) (b : Bool) :
    ∃ t, (∀ m ∈ t, Uni.isSpace m.letter = true) ∧ flat s = relinesP (finalLines s b) ++ t := by
  have hsp := (Inv_flush h).spaces
  rw [← flat_flush s, finalLines, lastLine_flush, ← flush_result s, flat, flush_word]
  generalize flush s = t at hsp ⊢
  split
  · exact ⟨t.space, hsp, by simp [relinesP_snoc]⟩
  · next hp =>
    have hl : t.line = [] := by simp at hp; exact hp.1
    -- only blanks after the last finished line: they go, and so does its line break
    rcases List.eq_nil_or_concat t.result with hR | ⟨R, x, hR⟩
    · exact ⟨t.space, hsp, by simp [hR, hl, preL, relinesP]⟩
    · refine ⟨nlC :: t.space, ?_, by simp [hR, hl, preL_snoc, relinesP_snoc]⟩
      simpa [nlC, isSpace_nl] using hsp

/-- The wrapped text, followed by the whitespace `Wrap` drops at the end, keeps the input. -/
theorem wrap_keeps (cells : List RawCell) (w : Int) (hw : 1 ≤ w) :
    ∃ t, (∀ m ∈ t, Uni.isSpace m.letter = true) ∧
      Keeps cells (relinesP (wrapLines cells w) ++ t) := by
  have hk := Keeps_foldl hw cells [] {} (Inv_init w hw) (Keeps_refl [])
  obtain ⟨t, ht, e⟩ := flat_final (Inv_foldl hw cells (Inv_init w hw)) (finalIsNL cells)
  exact ⟨t, ht, by rwa [List.nil_append, e, ← wrapLines_eq] at hk⟩

theorem wrap_keeps_visible (cells : List RawCell) (w : Int) (hw : 1 ≤ w) :
    visible (relinesP (wrapLines cells w)) = visible cells := by
  obtain ⟨t, ht, hk⟩ := wrap_keeps cells w hw
  rw [hk.2, visible_append, visible_spaces ht, List.append_nil]

end WrapP
