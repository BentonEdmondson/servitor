import Model
import Model.GoBytes
import Proofs.C19

/-
  The byte semantics of `Model/GoBytes.lean`: UTF-8 as the bridge between the model's strings of
  code points and Go's strings of bytes (an ASCII string is its bytes); `strconv.ParseUint` in
  base 16 on two bytes, in terms of the model's `Config.hexVal`.
-/

namespace GoB

@[simp] theorem utf8_nil : utf8 [] = [] := rfl

theorem utf8_cons (c : Char) (s : Str) : utf8 (c :: s) = String.utf8EncodeChar c ++ utf8 s := by
  simp [utf8]

theorem utf8_append (s t : Str) : utf8 (s ++ t) = utf8 s ++ utf8 t := by
  simp [utf8]

/-- By core's `List.utf8Decode?_utf8Encode`. -/
theorem ofUtf8_utf8 (s : Str) : ofUtf8 (utf8 s) = some s := by
  have h : (utf8 s).toByteArray = s.utf8Encode := rfl
  simp [ofUtf8, h]

theorem utf8_injective {s t : Str} (h : utf8 s = utf8 t) : s = t := by
  have := ofUtf8_utf8 s
  rw [h, ofUtf8_utf8] at this
  exact (Option.some.inj this).symm

/-- The same thresholds, written `< 0x80` in the model and `≤ 0x7F` in core. -/
theorem utf8Len_eq (c : Char) : Config.utf8Len c = c.utf8Size := by
  simp only [Char.utf8Size, UInt32.le_iff_toNat_le, Char.toNat_val, UInt32.toNat_ofNatLT,
    ← Nat.lt_succ_iff]
  rfl

theorem length_utf8 (s : Str) : (utf8 s).length = Config.byteLen s := by
  induction s with
  | nil => rfl
  | cons c s ih =>
    rw [utf8_cons, List.length_append, ih, String.length_utf8EncodeChar]
    simp [Config.byteLen, utf8Len_eq]

theorem toNat_toUInt8 {c : Char} (h : c.toNat < 128) : c.toUInt8.toNat = c.toNat := by
  rw [Char.toUInt8, UInt32.toNat_toUInt8, Char.toNat_val]
  omega

theorem utf8_cons_ascii {c : Char} (h : c.toNat < 128) (s : Str) :
    utf8 (c :: s) = c.toUInt8 :: utf8 s := by
  have e : (127 : UInt32).toNat = 127 := rfl
  rw [utf8_cons, String.utf8EncodeChar_eq_singleton]
  · rfl
  · rw [Char.utf8Size_eq_one_iff, UInt32.le_iff_toNat_le, Char.toNat_val, e]; omega

theorem toNat_charOfNat {n : Nat} (h : n < 128) : (Char.ofNat n).toNat = n := by
  rw [Char.ofNat, dif_pos (Or.inl (by omega))]
  rfl

theorem toUInt8_ofNat {x : UInt8} (h : x.toNat < 128) : (Char.ofNat x.toNat).toUInt8 = x := by
  apply UInt8.toNat_inj.mp
  rw [toNat_toUInt8 (by rwa [toNat_charOfNat h]), toNat_charOfNat h]

theorem eq_of_utf8_ascii {s : Str} {bs : Bytes} (h : utf8 s = bs) (hb : ∀ b ∈ bs, b.toNat < 128) :
    s = bs.map fun b => Char.ofNat b.toNat := by
  apply utf8_injective
  rw [h]
  clear h
  induction bs with
  | nil => rfl
  | cons b bs ih =>
    have lb := hb b List.mem_cons_self
    rw [List.map_cons, utf8_cons_ascii (by rwa [toNat_charOfNat lb]), toUInt8_ofNat lb,
      ← ih fun d hd => hb d (List.mem_cons_of_mem _ hd)]

open Strconv

/-- A byte as a hexadecimal digit: what the loop of `ParseUint` makes of it under base 16. -/
def hexByte (x : UInt8) : Option Nat :=
  match digitVal x with
  | some d => if d ≥ 16 then none else some d
  | none => none

theorem forall_byte {P : UInt8 → Prop} (h : ∀ n, n < 256 → P (UInt8.ofNat n)) (x : UInt8) : P x :=
  UInt8.ofNat_toNat (x := x) ▸ h x.toNat x.toNat_lt

theorem hexByte_eq (x : UInt8) :
    hexByte x = if x.toNat < 128 then Config.hexVal (Char.ofNat x.toNat) else none := by
  revert x
  apply forall_byte
  decide +kernel

theorem hexByte_some {x : UInt8} {d : Nat} (h : hexByte x = some d) :
    x.toNat < 128 ∧ Config.IsHex (Char.ofNat x.toNat) ∧ d ≤ 15 := by
  rw [hexByte_eq] at h
  by_cases hx : x.toNat < 128
  · exact ⟨hx, Config.hexVal_some (by rwa [if_pos hx] at h)⟩
  · rw [if_neg hx] at h; cases h

theorem hexByte_toUInt8 {c : Char} (h : c.toNat < 128) : hexByte c.toUInt8 = Config.hexVal c := by
  rw [hexByte_eq, toNat_toUInt8 h, if_pos h, Char.ofNat_toNat]

/-- One round of the loop of `ParseUint` in base 16, far from the overflow tests. -/
theorem digitsLoop_hex (c : UInt8) (cs : Bytes) {n : Nat} (hn : n < 2 ^ 56) :
    digitsLoop 16 (2 ^ 60) (2 ^ 64 - 1) (c :: cs) n =
      match hexByte c with
      | none => (0, some .syntax)
      | some d => digitsLoop 16 (2 ^ 60) (2 ^ 64 - 1) cs (n * 16 + d) := by
  unfold hexByte
  rw [digitsLoop]
  cases digitVal c with
  | none => rfl
  | some d =>
    dsimp only
    by_cases hd : d ≥ 16
    · rw [if_pos hd, if_pos hd]
    · rw [if_neg hd, if_neg hd, if_neg (by omega), Nat.mod_eq_of_lt (a := n * 16) (by omega),
        Nat.mod_eq_of_lt (by omega), if_neg (by omega)]

theorem parseUint_two (x y : UInt8) :
    parseUint [x, y] 16 0 =
      match hexByte x, hexByte y with
      | some a, some b => (16 * a + b, none)
      | _, _ => (0, some (.num .syntax)) := by
  have h : parseUintRaw [x, y] 16 0 = digitsLoop 16 (2 ^ 60) (2 ^ 64 - 1) [x, y] 0 := rfl
  rw [parseUint, h, digitsLoop_hex x [y] (by decide)]
  cases hx : hexByte x with
  | none => rfl
  | some a =>
    have := (hexByte_some hx).2.2
    dsimp only
    rw [digitsLoop_hex y [] (by omega)]
    cases hexByte y with
    | none => rfl
    | some b => simp [digitsLoop, Nat.mul_comm]

theorem parseUint_two_ok {x y : UInt8} {v : Nat} (h : parseUint [x, y] 16 0 = (v, none)) :
    ∃ a b, hexByte x = some a ∧ hexByte y = some b ∧ v = 16 * a + b := by
  rw [parseUint_two] at h
  split at h
  · next a b ha hb => exact ⟨a, b, ha, hb, (Prod.mk.inj h).1.symm⟩
  · cases h

end GoB
