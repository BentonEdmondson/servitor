import Proofs.C16

/-
  The renderers end with `trim (wrap …)`; `trim` yields an infix; the lines of an infix of a join
  are infixes of the joined lines; the cache wrapper keeps `cached = R tree cachedWidth`.
-/

namespace C15P
open Str Ansi Markup

theorem htmlR_eq (c : Colors) (nodes : List Dom.Node) (w : Int) :
    htmlR c nodes w =
      trim isSpNl (Ansi.wrap (Hypertext.renderKids c nodes ⟨false, w⟩ false {} []).1 w) := by
  simp only [htmlR, Hypertext.renderWithLinks, Hypertext.renderFull]

theorem gemR_eq (c : Colors) (lines : List Str) (w : Int) :
    gemR c lines w = trim isNl (Ansi.wrap
      (let s := lines.foldl (Gemtext.step c w) {}
       if s.pre then s.result ++ Gemtext.codeBlockOf c s.buf w else s.result) w) := by
  simp only [gemR, Gemtext.renderWithLinks, Gemtext.renderFull]

theorem plainR_eq (c : Colors) (text : Str) (w : Int) :
    plainR c text w =
      trim isNl (Ansi.wrap (Plaintext.replaceUrls c (text.length + 1) text [] []).1 w) := by
  simp only [plainR, Plaintext.renderWithLinks, Plaintext.renderFull]

theorem trimLeft_suffix (p : Char → Bool) (s : Str) : trimLeft p s <:+ s :=
  List.dropWhile_suffix p

theorem trimRight_prefix (p : Char → Bool) (s : Str) : trimRight p s <+: s := by
  have h := List.reverse_prefix.mpr (List.dropWhile_suffix p (l := s.reverse))
  rwa [List.reverse_reverse] at h

theorem trim_infix (p : Char → Bool) (s : Str) : trim p s <:+: s :=
  List.IsInfix.trans (trimRight_prefix p _).isInfix (trimLeft_suffix p s).isInfix

theorem mem_infix_joinNL : ∀ (ls : List Str) (l : Str), l ∈ ls → l <:+: joinNL ls
  | [], _, h => by simp at h
  | [l0], l, h => by rw [List.mem_singleton.1 h]; exact List.infix_rfl
  | l0 :: l1 :: ls, l, h => by
    show l <:+: l0 ++ '\n' :: joinNL (l1 :: ls)
    rcases List.mem_cons.mp h with h | h
    · subst h; exact (List.prefix_append _ _).isInfix
    · have ih := mem_infix_joinNL (l1 :: ls) l h
      exact List.IsInfix.trans ih
        (List.IsInfix.trans (List.suffix_cons _ _).isInfix (List.suffix_append _ _).isInfix)

theorem mem_splitNL_infix (t : Str) (l : Str) (h : l ∈ splitNL t) : l <:+: t := by
  have := mem_infix_joinNL (splitNL t) l h
  rwa [C16.joinNL_splitNL] at this

theorem infix_split {α : Type} {x a b : List α} {c : α} (hc : c ∉ x) (h : x <:+: a ++ c :: b) :
    x <:+: a ∨ x <:+: b := by
  -- the part of `x` that reaches into `c :: b` is empty
  have nil_of_prefix : ∀ y, y ⊆ x → y <+: c :: b → y = [] := fun y hy hp => by
    rcases List.prefix_cons_iff.1 hp with rfl | ⟨t, rfl, _⟩
    · rfl
    · exact absurd (hy List.mem_cons_self) hc
  rcases List.infix_append_iff.1 h with h | h | ⟨l₁, l₂, rfl, h₁, h₂⟩
  · exact Or.inl h
  · rcases List.infix_cons_iff.1 h with h | h
    · rw [nil_of_prefix x (List.Subset.refl _) h]; exact Or.inl List.nil_infix
    · exact Or.inr h
  · rw [nil_of_prefix l₂ (List.subset_append_right _ _) h₂, List.append_nil]
    exact Or.inl h₁.isInfix

theorem infix_joinNL (x : Str) (hx : '\n' ∉ x) :
    ∀ ls : List Str, x <:+: joinNL ls → (∃ l ∈ ls, x <:+: l) ∨ x = []
  | [], h => Or.inr (List.infix_nil.mp h)
  | [l], h => Or.inl ⟨l, by simp, h⟩
  | l0 :: l1 :: ls, h => by
    rcases infix_split hx (show x <:+: l0 ++ '\n' :: joinNL (l1 :: ls) from h) with h | h
    · exact Or.inl ⟨l0, by simp, h⟩
    · rcases infix_joinNL x hx (l1 :: ls) h with ⟨l, hl, hi⟩ | h
      · exact Or.inl ⟨l, List.mem_cons_of_mem _ hl, hi⟩
      · exact Or.inr h

theorem trim_lines_infix (trimSet : Char → Bool) (ls : List Str) :
    ∀ l' ∈ splitNL (trim trimSet (joinNL ls)), (∃ l ∈ ls, l' <:+: l) ∨ l' = [] :=
  fun l' hl' => infix_joinNL l' (C16.splitNL_noNL _ l' hl') ls
    ((mem_splitNL_infix _ l' hl').trans (trim_infix _ _))

variable {Tree : Type}

def Inv (R : Tree → Int → Str) (m : M Tree) : Prop := m.cached = R m.tree m.cachedWidth

theorem inv_new (R : Tree → Int → Str) (t : Tree) : Inv R (new R t) ∧ (new R t).tree = t :=
  ⟨rfl, rfl⟩

theorem inv_render (R : Tree → Int → Str) (m : M Tree) (w : Int) (h : Inv R m) :
    Inv R (render R m w).2 ∧ (render R m w).2.tree = m.tree ∧ (render R m w).1 = R m.tree w := by
  unfold render
  split
  · rename_i hw
    exact ⟨h, rfl, hw ▸ h⟩
  · exact ⟨rfl, rfl, rfl⟩

theorem renderSeq_inv (R : Tree → Int → Str) : ∀ (ws : List Int) (m : M Tree), Inv R m →
    Inv R (renderSeq R m ws).2 ∧ (renderSeq R m ws).2.tree = m.tree ∧
      (renderSeq R m ws).1 = ws.map (R m.tree)
  | [], _, h => ⟨h, rfl, rfl⟩
  | w :: ws, m, h => by
    obtain ⟨h1, h2, h3⟩ := inv_render R m w h
    obtain ⟨i1, i2, i3⟩ := renderSeq_inv R ws _ h1
    rw [h2] at i2 i3
    exact ⟨i1, i2, congr (congrArg List.cons h3) i3⟩

theorem render_history_free (R : Tree → Int → Str) (t : Tree) (ws : List Int) (w : Int) :
    (render R (renderSeq R (new R t) ws).2 w).1 = R t w := by
  obtain ⟨i1, i2, _⟩ := renderSeq_inv R ws (new R t) (inv_new R t).1
  have := (inv_render R _ w i1).2.2
  rw [this, i2]; rfl

theorem renderSeq_pure (R : Tree → Int → Str) (t : Tree) (ws : List Int) :
    (renderSeq R (new R t) ws).1 = ws.map (R t) :=
  (renderSeq_inv R ws (new R t) (inv_new R t).1).2.2

end C15P
