import Model.GoSem
import Proofs.C16

/-
  What the Go semantics of `Model/GoSem.lean` compute in the model's vocabulary (`Model/Basic.lean`,
  `Model/Ansi.lean`): indexing and slicing within bounds, the `strings` helpers on '\n', and the
  fixed-width integer conversions within their safe range.
-/

namespace Gen16
open Str

theorem ofNat10 : Char.ofNat 10 = '\n' := rfl
theorem str_nl : Go.str "\n" = ['\n'] := rfl
theorem str_sp : Go.str " " = [' '] := rfl
theorem str_empty : Go.str "" = [] := rfl

theorem two63 : (2 : Nat) ^ 63 = 9223372036854775808 := by decide
theorem two62 : (2 : Nat) ^ 62 = 4611686018427387904 := by decide
theorem two64 : (2 : Nat) ^ 64 = 18446744073709551616 := by decide
theorem two63i : (2 : Int) ^ 63 = 9223372036854775808 := by decide
theorem two64i : (2 : Int) ^ 64 = 18446744073709551616 := by decide

theorem usub_of_le (a b : Nat) (h : b ≤ a) : Go.usub a b = a - b := by
  simp [Go.usub, h]

theorem toInt_of_lt (a : Nat) (h : a < 2 ^ 63) : Go.toInt a = (a : Int) := by
  simp [Go.toInt, h]

theorem toUint_natCast (a : Nat) (h : a < 2 ^ 64) : Go.toUint (a : Int) = a := by
  unfold Go.toUint
  rw [two64] at h
  rw [two64i]
  omega

theorem index_nat {α : Type} (xs : List α) (k : Nat) (x : α) (h : xs[k]? = some x) :
    Go.index xs (k : Int) = .ok x := by
  simp [Go.index, h]

theorem index_last {α : Type} (xs : List α) (x : α) : Go.index (xs ++ [x]) (Go.len (xs ++ [x]) - 1) = .ok x := by
  simp [Go.index, Go.len]

theorem sliceTo_int {α : Type} (xs : List α) (k : Int) (h0 : 0 ≤ k) (h : k ≤ xs.length) :
    Go.sliceTo xs k = .ok (xs.take k.toNat) := by
  unfold Go.sliceTo
  have : ¬ (k < 0 ∨ k > (xs.length : Int)) := by omega
  rw [if_neg this]

theorem sliceTo_nat {α : Type} (xs : List α) (k : Nat) (h : k ≤ xs.length) :
    Go.sliceTo xs (k : Int) = .ok (xs.take k) :=
  sliceTo_int xs k (Int.natCast_nonneg k) (Int.ofNat_le.mpr h)

theorem sliceTo_neg {α : Type} (xs : List α) (k : Int) (h0 : k < 0) :
    Go.sliceTo xs k = .error .indexOutOfRange := by
  unfold Go.sliceTo
  rw [if_pos (Or.inl h0)]

theorem sliceTo_dropLast {α : Type} (xs : List α) (h : xs ≠ []) :
    Go.sliceTo xs (Go.len xs - 1) = .ok xs.dropLast := by
  have hl : 0 < xs.length := List.length_pos_iff.mpr h
  rw [Go.len, sliceTo_int xs _ (by omega) (by omega), List.dropLast_eq_take]
  congr 2
  omega

theorem sliceFrom_nat {α : Type} (xs : List α) (k : Nat) (h : k ≤ xs.length) :
    Go.sliceFrom xs (k : Int) = .ok (xs.drop k) := by
  unfold Go.sliceFrom
  have : ¬ ((k : Int) < 0 ∨ (k : Int) > (xs.length : Int)) := by omega
  rw [if_neg this, Int.toNat_natCast]

theorem sliceTo_toInt {α : Type} (xs : List α) (k : Nat) (h : k ≤ xs.length) (hk : k < 2 ^ 63) :
    Go.sliceTo xs (Go.toInt k) = .ok (xs.take k) := by
  rw [toInt_of_lt k hk, sliceTo_nat xs k h]

theorem splitChar_nl (t : Str) : Go.Strings.splitChar t '\n' = splitNL t := by
  induction t with
  | nil => rfl
  | cons x xs ih =>
    rw [Go.Strings.splitChar, splitNL, ih]
    cases splitNL xs <;> rfl

theorem join_nl (ls : List Str) : Go.Strings.join ls ['\n'] = joinNL ls := by
  induction ls with
  | nil => rfl
  | cons l ls ih =>
    cases ls with
    | nil => rfl
    | cons l' ls' =>
      simp only [Go.Strings.join, joinNL] at ih ⊢
      rw [ih]
      simp

theorem repeat_nat (c : Char) (n : Nat) : Go.Strings.repeat [c] (n : Int) = .ok (rep c n) := by
  unfold Go.Strings.repeat
  have : ¬ ((n : Int) < 0) := by omega
  rw [if_neg this, Int.toNat_natCast, List.flatten_replicate_singleton]
  rfl

theorem repeat_toInt (c : Char) (n : Nat) (hn : n < 2 ^ 63) :
    Go.Strings.repeat [c] (Go.toInt n) = .ok (rep c n) := by
  rw [toInt_of_lt n hn, repeat_nat]

theorem repeat_usub (c : Char) (a b : Nat) (hab : a > b) (ha : a < 2 ^ 63) :
    Go.Strings.repeat [c] (Go.toInt (Go.usub a b)) = .ok (rep c (a - b)) := by
  rw [usub_of_le a b (by omega), repeat_toInt c (a - b) (by omega)]

theorem repeat_nonneg (c : Char) (n : Int) (hn : 0 ≤ n) :
    Go.Strings.repeat [c] n = .ok (rep c n.toNat) := by
  have := repeat_nat c n.toNat
  rwa [Int.toNat_of_nonneg hn] at this

theorem countChar_nl (t : Str) : Go.Strings.countChar t '\n' = (countNL t : Int) := rfl

theorem replaceChar_nl (t : Str) : Go.Strings.replaceChar t '\n' [' '] = Ansi.squash t := by
  unfold Go.Strings.replaceChar Ansi.squash
  induction t with
  | nil => rfl
  | cons x xs ih =>
    simp only [List.map_cons, List.flatten_cons, ih]
    by_cases h : x = '\n' <;> simp [h]

theorem containsChar_nl (t : Str) : Go.Strings.containsChar t '\n' = t.contains '\n' := rfl

theorem countNL_le_length (t : Str) : countNL t ≤ t.length := List.count_le_length

theorem height_le (t : Str) : Ansi.height t ≤ t.length + 1 := by
  unfold Ansi.height
  have := countNL_le_length t
  omega

theorem lastIndexChar_nl (s : Str) :
    Go.Strings.lastIndexChar s '\n' =
      match Ansi.lastIndexNL s with
      | some i => (i : Int)
      | none => -1 := by
  have hb : ∀ i, s.reverse.idxOf? '\n' = some i → i < s.length := by
    intro i h
    obtain ⟨hi, _⟩ := List.idxOf?_eq_some_iff.mp h
    simpa using hi
  simp only [Go.Strings.lastIndexChar, Ansi.lastIndexNL]
  cases h : s.reverse.idxOf? '\n' with
  | none => rfl
  | some i =>
    have := hb i h
    simp only
    omega

theorem lastIndexNL_le (s : Str) (i : Nat) (h : Ansi.lastIndexNL s = some i) : i ≤ s.length := by
  simp only [Ansi.lastIndexNL] at h
  split at h
  · simp at h; omega
  · simp at h

end Gen16
