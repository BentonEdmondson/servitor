import Proofs.Layout

/-
  `ansi.Snip`: the shape of what its back-to-front loop keeps, and the height of the result.
-/

namespace SnipP
open Str Ansi AnsiSpec LayoutP

theorem snipLoop_ws (w : Int) (l : Str) (rest : List Str) (req : Bool)
    (h : lineIsOnlyWhitespace (expand l) = true) :
    snipLoop w (l :: rest) req = snipLoop w rest true := by
  simp [snipLoop, h]

theorem snipLoop_keep (w : Int) (l : Str) (rest : List Str) (req : Bool)
    (h : ¬ lineIsOnlyWhitespace (expand l) = true) :
    snipLoop w (l :: rest) req = (rest.reverse.map (fun l => collapse (expand l)) ++
      [collapse (if ((expand l).length : Int) = w && req then (expand l).dropLast else expand l)],
      req) := by
  simp [snipLoop, h]

/-- Either nothing is kept, or the loop skipped the whitespace-only lines `a`, kept `l`
    (shortened by one match when it fills the width and an ellipsis follows) and everything
    before it, unchanged: `collapse (expand ·)` is the identity. -/
theorem snipLoop_shape (w : Int) : ∀ (L : List Str) (req : Bool),
    (snipLoop w L req).1 = [] ∨
    ∃ a l b r, L = a ++ l :: b ∧ expand l ≠ [] ∧ snipLoop w L req = (b.reverse ++
      [collapse (if ((expand l).length : Int) = w && r then (expand l).dropLast else expand l)], r) := by
  intro L
  induction L with
  | nil => intro req; left; rfl
  | cons l rest ih =>
    intro req
    by_cases hws : lineIsOnlyWhitespace (expand l) = true
    · rw [snipLoop_ws w l rest req hws]
      exact (ih true).imp_right fun ⟨a, l', b, r, h1, h2⟩ => ⟨l :: a, l', b, r, by simp [h1], h2⟩
    · exact .inr ⟨[], l, rest, req, rfl, fun h0 => hws (by rw [h0]; rfl),
        by simp [snipLoop_keep w l rest req hws, collapse_expand]⟩

/-- At most `h` lines are returned (for `h ≥ 1`; one possibly empty line for `h = 0`). -/
theorem snip_height (text : Str) (w h : Int) (e : Str) (hh : 0 ≤ h) (he : '\n' ∉ e) :
    ∃ out, snip text w h e = .ok out ∧ (height out : Int) ≤ max h 1 := by
  simp only [snip, show ¬ h < 0 by omega, if_false]
  refine ⟨_, rfl, ?_⟩
  generalize decide ((splitNL text).length > h) = req
  generalize hn : (if ((splitNL text).length : Int) ≤ h then (splitNL text).length else h.toNat) = n
  have hn' : (n : Int) ≤ max h 1 := by rw [← hn]; split <;> omega
  have hL : ∀ l ∈ ((splitNL text).take n).reverse, '\n' ∉ l := fun l hl =>
    C16.splitNL_noNL text l (List.mem_of_mem_take (List.mem_reverse.mp hl))
  have hLn : ((splitNL text).take n).reverse.length ≤ n := by simp; omega
  generalize ((splitNL text).take n).reverse = L at hL hLn
  -- the kept lines are lines of `L` (one possibly shortened), no more than `L` has
  have hkept : (snipLoop w L req).1.length ≤ L.length ∧ ∀ k ∈ (snipLoop w L req).1, '\n' ∉ k := by
    rcases snipLoop_shape w L req with h0 | ⟨a, l, b, r, h1, _, h2⟩
    · simp [h0]
    · have hb : ∀ k ∈ b.reverse, '\n' ∉ k := fun k hk => hL k (by simp [h1, List.mem_reverse.mp hk])
      have hl : '\n' ∉ l := hL l (by simp [h1])
      rw [h2]
      refine ⟨by simp [h1], List.forall_mem_append.mpr ⟨hb, ?_⟩⟩
      simp only [List.forall_mem_singleton]
      split
      · obtain ⟨t, ht⟩ := List.dropLast_prefix (expand l)
        rw [← collapse_expand l, ← ht, collapse_append] at hl
        exact fun hm => hl (List.mem_append_left _ hm)
      · rwa [collapse_expand]
  have he0 : countNL (if (snipLoop w L req).2 = true then e else []) = 0 := by
    split
    · exact List.count_eq_zero.mpr he
    · rfl
  rw [height, countNL, List.count_append, ← countNL, ← countNL, C16.countNL_joinNL _ hkept.2, he0]
  omega

end SnipP
