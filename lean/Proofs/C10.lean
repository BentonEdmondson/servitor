import Model.Collection

/-
  `Coll.harvest0` and `Coll.harvest` are the two uses of one function, `harvestAt`: the Go
  `harvestWithEmptyCount(amount, startingPoint, emptyCount)` with all three arguments.  What it does
  at one page has three cases (`Run`): the harvest stops there without a continuation (`Stops` says
  why), the page satisfies the request, or the chain goes on (`Link`) with what is left of the
  request.  Every C10 theorem is an induction over `Run`.
-/

namespace Coll
variable {R E : Type} {load : R → Option (Page R E)}

def Link (load : R → Option (Page R E)) (c p : Page R E) : Prop :=
  ¬ c.elemsFailed = true ∧ ∃ r, c.next = .ref r ∧ load r = some p

/-- `harvestWithEmptyCount(amount, start, e)`: page `c` is entered at offset `start` with `e`
    consecutive empty pages behind it.  Later pages are entered at offset 0 (`harvest0`). -/
def harvestAt (load : R → Option (Page R E)) (c : Page R E) (amount start e : Nat) : Res R E :=
  if c.elemsFailed then ⟨[.failElems], none, 1⟩
  else if nextEmpties c.items.length e > threshold then ⟨[.refuse], none, 1⟩
  else if c.items.length > amount + start then
    ⟨((c.items.drop start).take amount).map .item, some (c, amount + start), 1⟩
  else
    match c.next with
    | .absent => ⟨(c.items.drop start).map .item, none, 1⟩
    | .err => ⟨(c.items.drop start).map .item ++ [.failNext], none, 1⟩
    | .ref r =>
      match load r with
      | none => ⟨(c.items.drop start).map .item ++ [.failLoad], none, 1⟩
      | some p =>
        let rest := harvest0 load p (amount - (c.items.length - start)) (nextEmpties c.items.length e)
        ⟨(c.items.drop start).map .item ++ rest.out, rest.cont, rest.pages + 1⟩

def broken (load : R → Option (Page R E)) (q : Page R E) : Prop :=
  q.elemsFailed = true ∨ (match q.next with
    | .err => True
    | .ref r => load r = none
    | .absent => False)

/-- Why a harvest that does not find the whole request on `c` ends there; the index is the entries
    that close its delivery. -/
inductive Stops (load : R → Option (Page R E)) (c : Page R E) (e : Nat) : List (Out E) → Prop
  | clean : ¬ c.elemsFailed = true → c.next = .absent → Stops load c e []
  | refused : nextEmpties c.items.length e > threshold → Stops load c e [.refuse]
  | broke {f : Out E} : broken load c → f.isItem = false → f ≠ .refuse → Stops load c e [f]

/-- `Run load c a s e res`: a request for `a` items entering `c` at offset `s`, with `e` empty
    pages behind it, results in `res`. -/
inductive Run (load : R → Option (Page R E)) : Page R E → Nat → Nat → Nat → Res R E → Prop
  | stop {c a s e tail} : Stops load c e tail → c.items.length ≤ a + s →
      Run load c a s e ⟨(c.items.drop s).map .item ++ tail, none, 1⟩
  | enough {c a s e} : ¬ c.elemsFailed = true → ¬ nextEmpties c.items.length e > threshold →
      c.items.length > a + s →
      Run load c a s e ⟨((c.items.drop s).take a).map .item, some (c, a + s), 1⟩
  | more {c a s e p rest} : Link load c p → ¬ nextEmpties c.items.length e > threshold →
      c.items.length ≤ a + s →
      Run load p (a - (c.items.length - s)) 0 (nextEmpties c.items.length e) rest →
      Run load c a s e ⟨(c.items.drop s).map .item ++ rest.out, rest.cont, rest.pages + 1⟩

variable {c p : Page R E} {a s e : Nat}

theorem chain_succ (h : Link load c p) (fuel : Nat) :
    chain load (fuel + 1) c = c :: chain load fuel p := by
  obtain ⟨hf, r, hn, hl⟩ := h
  simp [chain, hf, hn, hl]

theorem chain_cons (load : R → Option (Page R E)) (fuel : Nat) (c : Page R E) :
    ∃ ps, chain load fuel c = c :: ps := by
  cases fuel with
  | zero => exact ⟨[], rfl⟩
  | succ n =>
    unfold chain
    repeat' split
    all_goals exact ⟨_, rfl⟩

theorem flat_zero (load : R → Option (Page R E)) (c : Page R E) (start : Nat) :
    flat load 0 c start = c.items.drop start := by
  simp [flat, chain]

theorem flat_succ (h : Link load c p) (fuel start : Nat) :
    flat load (fuel + 1) c start = c.items.drop start ++ flat load fuel p 0 := by
  obtain ⟨ps, hps⟩ := chain_cons load fuel p
  simp [flat, chain_succ h, hps]

theorem endsCleanly_succ (h : Link load c p) (fuel : Nat) :
    endsCleanly load (fuel + 1) c = endsCleanly load fuel p := by
  obtain ⟨hf, r, hn, hl⟩ := h
  simp [endsCleanly, hf, hn, hl]

theorem nextEmpties_pos {l : Nat} (e : Nat) (h : l ≠ 0) : nextEmpties l e = 0 := if_neg h

theorem refused_iff {l e : Nat} : nextEmpties l e > threshold ↔ l = 0 ∧ threshold ≤ e := by
  unfold nextEmpties; split <;> omega

theorem items_of_failed (h : c.elemsFailed = true) : c.items = [] := by
  unfold Page.elemsFailed at h; unfold Page.items; split at h <;> simp_all

theorem harvest0_eq_at (load : R → Option (Page R E)) (c : Page R E) (amount e : Nat) :
    harvest0 load c amount e = harvestAt load c amount 0 e := by
  rw [harvest0]; rfl

/-- On the first page `emptyCount` is 0, so it cannot be refused; and the number of items `harvest`
    takes from it (its `let k`) is `amount` when the page satisfies the request and all that is left
    of the page otherwise, which is what `harvestAt` writes in the two cases. -/
theorem harvest_eq_at (load : R → Option (Page R E)) (c : Page R E) (amount start : Nat) :
    harvest load c amount start = harvestAt load c amount start 0 := by
  have hr : ¬ nextEmpties c.items.length 0 > threshold := fun h => absurd (refused_iff.mp h).2 (by decide)
  unfold harvest harvestAt
  simp only [if_neg hr]
  by_cases hl : c.items.length > amount + start
  · simp [hl, show ¬ start ≥ c.items.length by omega]
  · have hk : (if start ≥ c.items.length then 0 else c.items.length - start) = c.items.length - start :=
      ite_eq_right_iff.mpr fun h => (Nat.sub_eq_zero_of_le h).symm
    have ht : (c.items.drop start).take (c.items.length - start) = c.items.drop start :=
      List.take_of_length_le (by simp)
    simp only [hl, if_false, hk, ht]
    rfl

theorem harvestAt_enough (hf : ¬ c.elemsFailed = true) (hr : ¬ nextEmpties c.items.length e > threshold)
    (hl : c.items.length > a + s) :
    harvestAt load c a s e = ⟨((c.items.drop s).take a).map .item, some (c, a + s), 1⟩ := by
  rw [harvestAt, if_neg hf, if_neg hr, if_pos hl]

theorem harvestAt_more (h : Link load c p) (hr : ¬ nextEmpties c.items.length e > threshold)
    (hl : c.items.length ≤ a + s) :
    harvestAt load c a s e =
      let rest := harvestAt load p (a - (c.items.length - s)) 0 (nextEmpties c.items.length e)
      ⟨(c.items.drop s).map .item ++ rest.out, rest.cont, rest.pages + 1⟩ := by
  obtain ⟨hf, r, hn, hld⟩ := h
  rw [harvestAt, if_neg hf, if_neg hr, if_neg (by omega)]
  simp only [hn, hld, harvest0_eq_at]

theorem harvestAt_run (load : R → Option (Page R E)) (c : Page R E) (a s e : Nat) :
    Run load c a s e (harvestAt load c a s e) := by
  -- the recursive call is on the rest of the chain, whose result counts one page less
  generalize hn : (harvestAt load c a s e).pages = n
  induction n using Nat.strongRecOn generalizing c a s e with | _ n ih => ?_
  by_cases hf : c.elemsFailed = true
  · have h0 := items_of_failed hf
    simpa [harvestAt, hf, h0] using
      Run.stop (a := a) (s := s) (.broke (.inl hf) rfl nofun : Stops load c e [.failElems]) (by simp [h0])
  by_cases hr : nextEmpties c.items.length e > threshold
  · have h0 : c.items = [] := List.eq_nil_of_length_eq_zero (refused_iff.mp hr).1
    rw [harvestAt, if_neg hf, if_pos hr]
    simpa [h0] using Run.stop (a := a) (s := s) (.refused hr : Stops load c e _) (by simp [h0])
  by_cases hl : c.items.length > a + s
  · rw [harvestAt_enough hf hr hl]; exact .enough hf hr hl
  have hl' : c.items.length ≤ a + s := by omega
  cases hnx : c.next with
  | absent => simpa [harvestAt, hf, hr, hl, hnx] using Run.stop (.clean hf hnx : Stops load c e _) hl'
  | err =>
    simpa [harvestAt, hf, hr, hl, hnx] using
      Run.stop (.broke (.inr (by simp [hnx])) rfl nofun : Stops load c e [.failNext]) hl'
  | ref r =>
    cases hld : load r with
    | none =>
      simpa [harvestAt, hf, hr, hl, hnx, hld] using
        Run.stop (.broke (.inr (by simp [hnx, hld])) rfl nofun : Stops load c e [.failLoad]) hl'
    | some p =>
      have hlk : Link load c p := ⟨hf, r, hnx, hld⟩
      rw [harvestAt_more hlk hr hl'] at hn ⊢
      exact .more hlk hr hl' (ih _ (by simp only at hn; omega) _ _ _ _ rfl)

theorem harvest0_run (load : R → Option (Page R E)) (c : Page R E) (a e : Nat) :
    Run load c a 0 e (harvest0 load c a e) :=
  harvest0_eq_at load c a e ▸ harvestAt_run load c a 0 e

theorem harvest_run (load : R → Option (Page R E)) (c : Page R E) (a s : Nat) :
    Run load c a s 0 (harvest load c a s) :=
  harvest_eq_at load c a s ▸ harvestAt_run load c a s 0

theorem isItem_of_mem_map {f : Out E} {xs : List E} (h : f ∈ xs.map Out.item) : f.isItem = true := by
  obtain ⟨x, _, rfl⟩ := List.mem_map.mp h
  rfl

theorem mem_tail_of_not_item {f : Out E} {xs : List E} {tail : List (Out E)}
    (hni : f.isItem = false) (h : f ∈ xs.map Out.item ++ tail) : f ∈ tail :=
  (List.mem_append.mp h).resolve_left fun h => by cases hni.symm.trans (isItem_of_mem_map h)

variable {res : Res R E}

namespace Run

theorem pages_pos (h : Run load c a s e res) : 0 < res.pages := by
  cases h <;> exact Nat.succ_pos _

/-- Termination measure `(amount, threshold + 1 - e)` of `harvest0` read as a bound: an empty page
    uses up one of the `threshold + 1 - e` empty pages still allowed, any other page an item. -/
theorem pages_le (h : Run load c a s e res) (hs : s = 0) (he : e ≤ threshold) :
    res.pages ≤ a * (threshold + 1) + (threshold + 1 - e) := by
  induction h with
  | stop | enough => simp only [threshold] at *; omega
  | @more c a s e p rest _ hr hl _ ih =>
    replace ih := ih rfl (Nat.le_of_not_gt hr)
    show rest.pages + 1 ≤ _
    unfold nextEmpties threshold at *
    split at ih <;> omega

/-- Entered at any offset, the first page may be passed without using up an item. -/
theorem pages_le' (h : Run load c a s e res) : res.pages ≤ (a + 1) * (threshold + 1) + 1 := by
  cases h with
  | stop | enough => simp only [threshold]; omega
  | more _ hr hl h' =>
    have := h'.pages_le rfl (by omega)
    have := Nat.mul_le_mul_right (threshold + 1) (Nat.sub_le a (c.items.length - s))
    simp only [threshold, Nat.add_mul] at *
    omega

theorem cont_some {off : Nat} (h : Run load c a s e res) (hc : res.cont = some (p, off)) :
    (∃ items : List E, res.out = items.map Out.item ∧ items.length = a) ∧ off < p.items.length := by
  induction h with
  | stop => cases hc
  | enough _ _ hl => cases hc; exact ⟨⟨_, rfl, by simp only [List.length_take, List.length_drop]; omega⟩, hl⟩
  | @more c a s _ _ _ _ _ hl _ ih =>
    obtain ⟨⟨items, ho, hlen⟩, hoff⟩ := ih hc
    exact ⟨⟨c.items.drop s ++ items, by simp [ho],
      by simp only [List.length_append, List.length_drop, hlen]; omega⟩, hoff⟩

theorem prefix_flat (h : Run load c a s e res) :
    ∃ (items : List E) (tail : List (Out E)),
      res.out = items.map Out.item ++ tail ∧ items.length ≤ a ∧
      (tail = [] ∨ (∃ f, tail = [f] ∧ f.isItem = false ∧ res.cont = none)) ∧
      ∃ fuel, items <+: flat load fuel c s := by
  induction h with
  | @stop c a s e tail hs hl =>
    refine ⟨c.items.drop s, tail, rfl, by rw [List.length_drop]; exact Nat.sub_le_iff_le_add.mpr hl, ?_, 0,
      by rw [flat_zero]; exact List.prefix_refl _⟩
    cases hs with
    | clean => exact .inl rfl
    | refused => exact .inr ⟨_, rfl, rfl, rfl⟩
    | broke _ hni => exact .inr ⟨_, rfl, hni, rfl⟩
  | @enough c a s _ _ _ _ =>
    exact ⟨(c.items.drop s).take a, [], by simp, List.length_take_le _ _, .inl rfl, 0,
      by rw [flat_zero]; exact List.take_prefix _ _⟩
  | @more c a s _ _ _ hlk _ hl _ ih =>
    obtain ⟨items, tail, ho, hlen, ht, fuel, hp⟩ := ih
    exact ⟨c.items.drop s ++ items, tail, by simp [ho], by simp only [List.length_append, List.length_drop]; omega,
      ht, fuel + 1, by rw [flat_succ hlk]; exact (List.prefix_append_right_inj _).mpr hp⟩

theorem complete (h : Run load c a s e res) (hn : res.cont = none)
    (hi : ∀ o ∈ res.out, o.isItem = true) :
    ∃ fuel, endsCleanly load fuel c = true ∧ res.out = (flat load fuel c s).map Out.item := by
  induction h with
  | stop hs =>
    have hi' := fun f => hi f ∘ List.mem_append_right _
    cases hs with
    | clean hf hnx => exact ⟨0, by simp [endsCleanly, hf, hnx], by simp [flat_zero]⟩
    | refused => cases hi' _ (List.mem_singleton_self _)
    | broke _ hni => cases hni.symm.trans (hi' _ (List.mem_singleton_self _))
  | enough => cases hn
  | more hlk _ _ _ ih =>
    obtain ⟨fuel, hec, ho⟩ := ih hn fun o h => hi o (List.mem_append_right _ h)
    exact ⟨fuel + 1, by rw [endsCleanly_succ hlk, hec], by rw [flat_succ hlk]; simp [ho]⟩

/-- A refusal closes a run of `threshold + 1` consecutive empty pages, the `e` pages before `c`
    counted in: it ends at position `m` of the chain and so begins at `m - threshold ≥ -e`. -/
theorem refuse (h : Run load c a s e res) (hr : Out.refuse ∈ res.out) :
    ∃ fuel m, threshold ≤ m + e ∧
      ∀ k, k ≤ m → m ≤ k + threshold → ∃ q, (chain load fuel c)[k]? = some q ∧ q.items = [] := by
  induction h with
  | @stop c _ _ _ _ hs =>
    have hr := mem_tail_of_not_item rfl hr
    cases hs with
    | refused hgt =>
      rw [refused_iff] at hgt
      exact ⟨0, 0, by omega, fun k hk _ => ⟨c, by simp [chain, Nat.le_zero.mp hk],
        List.eq_nil_of_length_eq_zero hgt.1⟩⟩
    | clean => cases hr
    | broke _ _ hne => exact absurd (List.mem_singleton.mp hr).symm hne
  | enough => cases isItem_of_mem_map hr
  | @more c _ _ e _ _ hlk _ _ _ ih =>
    obtain ⟨fuel, m, hm, H⟩ := ih (mem_tail_of_not_item rfl hr)
    unfold nextEmpties at hm
    refine ⟨fuel + 1, m + 1, by split at hm <;> omega, fun k hk hk' => ?_⟩
    rw [chain_succ hlk]
    cases k with
    | zero =>
      -- `c` itself lies in the run, so the count passed on to `p` was not reset
      exact ⟨c, rfl, List.eq_nil_of_length_eq_zero (by split at hm <;> omega)⟩
    | succ k => simpa using H k (by omega) (by omega)

theorem failure {f : Out E} (h : Run load c a s e res) (hf : f ∈ res.out)
    (hni : f.isItem = false) (hr : f ≠ .refuse) :
    ∃ fuel, ∃ q ∈ chain load fuel c, broken load q := by
  induction h with
  | @stop c _ _ _ _ hs =>
    have hf := mem_tail_of_not_item hni hf
    cases hs with
    | clean => cases hf
    | refused => exact absurd (List.mem_singleton.mp hf) hr
    | broke hb => exact ⟨0, c, List.mem_singleton_self c, hb⟩
  | enough => cases hni.symm.trans (isItem_of_mem_map hf)
  | more hlk _ _ _ ih =>
    obtain ⟨fuel, q, hq, hb⟩ := ih (mem_tail_of_not_item hni hf)
    exact ⟨fuel + 1, q, by rw [chain_succ hlk]; exact List.mem_cons_of_mem _ hq, hb⟩

/-- Harvesting `n₁` and then `n₂` through the continuation is harvesting `n₁ + n₂`.  The page that
    satisfies the first request is not empty, so both the second request and the rest of the joint
    one go on from it with the same amount and an empty-page count of 0. -/
theorem compose {n₁ off : Nat} (h : Run load c n₁ s e res) (n₂ : Nat)
    (hc : res.cont = some (p, off)) :
    (harvestAt load c (n₁ + n₂) s e).out = res.out ++ (harvestAt load p n₂ off 0).out ∧
    (harvestAt load c (n₁ + n₂) s e).cont = (harvestAt load p n₂ off 0).cont := by
  induction h with
  | stop => cases hc
  | @enough c n₁ s e hf hr hl =>
    cases hc  -- `p` is `c`, `off` is `n₁ + s`
    have hpos : p.items.length ≠ 0 := by omega
    have h0 : ¬ 0 > threshold := by decide
    by_cases hl2 : p.items.length > n₁ + n₂ + s
    · rw [harvestAt_enough hf hr hl2, harvestAt_enough hf (by rwa [nextEmpties_pos 0 hpos]) (by omega)]
      exact ⟨by rw [← List.map_append, List.take_add, List.drop_drop, Nat.add_comm s],
        by rw [show n₁ + n₂ + s = n₂ + (n₁ + s) by omega]⟩
    · have ha : n₁ + n₂ - (p.items.length - s) = n₂ - (p.items.length - (n₁ + s)) := by omega
      have hs : (p.items.drop s).map Out.item =
          ((p.items.drop s).take n₁).map Out.item ++ (p.items.drop (n₁ + s)).map .item := by
        rw [← List.map_append, Nat.add_comm n₁ s, ← List.drop_drop, List.take_append_drop]
      simp only [harvestAt, if_neg hf, nextEmpties_pos _ hpos, if_neg h0, if_neg hl2,
        if_neg (show ¬ p.items.length > n₂ + (n₁ + s) by omega), ha, hs]
      split
      · exact ⟨rfl, rfl⟩
      · exact ⟨List.append_assoc .., rfl⟩
      · split <;> exact ⟨List.append_assoc .., rfl⟩
  | @more c n₁ s e p' rest hlk hr hl _ ih =>
    obtain ⟨ho, hc⟩ := ih hc
    rw [harvestAt_more hlk hr (by omega), Nat.sub_add_comm (Nat.sub_le_iff_le_add.mpr hl)]
    exact ⟨by simp only [ho, List.append_assoc], hc⟩

end Run

end Coll
