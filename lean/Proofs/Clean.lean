import Proofs.CleanRender
import Proofs.CleanGem

/-
  The modules on the closure of clean text (`Proofs.CleanBasic` … `Proofs.CleanGem`), under one name.
-/
