import Model
import Model.GoStrings
import Generated.GoGemtext
import Props.Gen13
import Props.Gen14
import Proofs.CleanGem

/-
  For Props/Gen15.lean and Props/Gen15h.lean: how translated control flow is met by the model's
  (an `if` by its like, the cache of `Render` and a sequence of `Render`s, for all three
  renderers at once); then what the regular expressions of gemtext.go and plaintext.go answer,
  as functions of the model (`gemExt`, `plainExt`).
-/

namespace Gen15P
open Str Ansi Gemtext

/-- The translated `if q then x else y` against the model's `if p then x' else y'` under `f`,
    when the tests agree: branch by branch. -/
theorem switch_case {α β : Type} (f : β → α) {p q : Prop} [Decidable p] [Decidable q] {x y : α} {x' y' : β}
    (hq : q ↔ p) (h1 : p → x = f x') (h2 : ¬p → y = f y') :
    (if q then x else y) = f (if p then x' else y') := by
  by_cases hp : p
  · rw [if_pos hp, if_pos (hq.2 hp)]; exact h1 hp
  · rw [if_neg hp, if_neg (mt hq.1 hp)]; exact h2 hp

/-- The same where the model's side has no test of its own at this place. -/
theorem switch_else {α : Type} {p q : Prop} [Decidable q] {x y z : α} (hq : q ↔ p) (h1 : p → x = z) (h2 : ¬p → y = z) :
    (if q then x else y) = z := by
  by_cases h : q
  · rw [if_pos h]; exact h1 (hq.1 h)
  · rw [if_neg h]; exact h2 (mt hq.2 h)

/-- The shape of the three translated `Render`s (their `Markup` structures differ, `mk`) against
    `Markup.render`: the cached text if the cached width is asked again, else the renderer's text,
    remembered with its width. -/
theorem render_of {Tree G : Type} (mk : Tree → Str → Int → G) (R : Tree → Int → Str) (m : Markup.M Tree) (w : Int) :
    (if decide (m.cachedWidth = w) = true then pure (m.cached, mk m.tree m.cached m.cachedWidth)
      else pure (R m.tree w, mk m.tree (R m.tree w) w) : Except Panic (Str × G)) =
      .ok ((Markup.render R m w).1,
        mk (Markup.render R m w).2.tree (Markup.render R m w).2.cached (Markup.render R m w).2.cachedWidth) := by
  rw [Markup.render]
  by_cases h : m.cachedWidth = w
  · rw [if_pos (decide_eq_true h), if_pos h]; rfl
  · rw [if_neg (mt of_decide_eq_true h), if_neg h]; rfl

/-- A translated `Render` that is the model's `Markup.render` on the translated markup (`toGen`),
    called at a sequence of widths (`seq`, by its two equations), is the model's `Markup.renderSeq`. -/
theorem renderSeq_of {Tree G : Type} (toGen : Markup.M Tree → G) (R : Tree → Int → Str)
    (render : G → Int → Except Panic (Str × G)) (seq : G → List Int → Except Panic (List Str × G))
    (h0 : ∀ g, seq g [] = .ok ([], g))
    (h1 : ∀ g w ws, seq g (w :: ws) = do
      let r ← render g w
      let rest ← seq r.2 ws
      return (r.1 :: rest.1, rest.2))
    (hr : ∀ m w, render (toGen m) w = .ok ((Markup.render R m w).1, toGen (Markup.render R m w).2))
    (m : Markup.M Tree) (ws : List Int) :
    seq (toGen m) ws = .ok ((Markup.renderSeq R m ws).1, toGen (Markup.renderSeq R m ws).2) := by
  induction ws generalizing m with
  | nil => exact h0 _
  | cons w ws ih =>
    rw [h1, hr, Gen14.bind_ok, ih, Gen14.bind_ok]
    rfl

/-- `^=>[ \t]*(.*?)(?:[ \t]+(.*))?$` -/
def linkMatch (line : Str) : List Str :=
  match line with
  | '=' :: '>' :: rest =>
    let r := rest.dropWhile isBlank
    [line, r.takeWhile (fun c => !isBlank c), (r.dropWhile (fun c => !isBlank c)).dropWhile isBlank]
  | _ => []

/-- `^#{k}[ \t]+(.*)$` -/
def headerMatch (k : Nat) (line : Str) : List Str :=
  match headerText k line with
  | some t => [line, t]
  | none => []

/-- `^\* (.*)$` -/
def bulletMatch (line : Str) : List Str :=
  match line with
  | '*' :: ' ' :: t => [line, t]
  | _ => []

/-- `^> ?(.*)$` -/
def quoteMatch (line : Str) : List Str :=
  match line with
  | '>' :: ' ' :: t => [line, t]
  | '>' :: t => [line, t]
  | _ => []

def gemExt : GenGemtext.Ext :=
  ⟨linkMatch, headerMatch 1, headerMatch 2, headerMatch 3, bulletMatch, quoteMatch⟩

theorem str_fence : Go.str "```" = "```".toList := rfl
theorem str_nl : Go.str "\n" = ['\n'] := Gen16.str_nl
theorem str_empty : Go.str "" = [] := Gen16.str_empty

theorem trim_nl (s : Str) : Go.Strings.trim s ['\n'] = trim isNl s := by
  unfold Go.Strings.trim isNl; simp

/-- The state of the translated loop: links, result, preformattedMode, preformattedBuffer. -/
def loopVars (s : St) : List Str × Str × Bool × Str := (s.links, s.result, s.pre, s.buf)

def next (s : St) : Except Panic (ForInStep (List Str × Str × Bool × Str)) := .ok (.yield (loopVars s))

theorem linkMatch_none (line : Str) (h : ∀ rest, line = '=' :: '>' :: rest → False) : linkMatch line = [] := by
  unfold linkMatch; split
  · exact (h _ rfl).elim
  · rfl

theorem bulletMatch_none (line : Str) (h : ∀ t, line = '*' :: ' ' :: t → False) : bulletMatch line = [] := by
  unfold bulletMatch; split
  · exact (h _ rfl).elim
  · rfl

theorem quoteMatch_none (line : Str) (h1 : ∀ t, line = '>' :: ' ' :: t → False)
    (h2 : ∀ t, line = '>' :: t → False) : quoteMatch line = [] := by
  unfold quoteMatch; split
  · exact (h1 _ rfl).elim
  · exact (h2 _ rfl).elim
  · rfl

/-- The seven ways a line is classified, each with what the six recognisers answer up to the one
    that decides. -/
theorem shapes (line : Str) :
    (∃ u a, linkMatch line = [line, u, a] ∧ classify line = .link u (if a.isEmpty then u else a)) ∨
    (linkMatch line = [] ∧ ∃ t, headerMatch 1 line = [line, t] ∧ classify line = .header 1 t) ∨
    (linkMatch line = [] ∧ headerMatch 1 line = [] ∧ ∃ t, headerMatch 2 line = [line, t] ∧
      classify line = .header 2 t) ∨
    (linkMatch line = [] ∧ headerMatch 1 line = [] ∧ headerMatch 2 line = [] ∧
      ∃ t, headerMatch 3 line = [line, t] ∧ classify line = .header 3 t) ∨
    (linkMatch line = [] ∧ headerMatch 1 line = [] ∧ headerMatch 2 line = [] ∧ headerMatch 3 line = [] ∧
      ∃ t, bulletMatch line = [line, t] ∧ classify line = .bullet t) ∨
    (linkMatch line = [] ∧ headerMatch 1 line = [] ∧ headerMatch 2 line = [] ∧ headerMatch 3 line = [] ∧
      bulletMatch line = [] ∧ ∃ t, quoteMatch line = [line, t] ∧ classify line = .quote t) ∨
    (linkMatch line = [] ∧ headerMatch 1 line = [] ∧ headerMatch 2 line = [] ∧ headerMatch 3 line = [] ∧
      bulletMatch line = [] ∧ quoteMatch line = [] ∧ classify line = .plain line) := by
  unfold classify headerMatch
  split
  · exact .inl ⟨_, _, rfl, rfl⟩
  · rename_i hne
    have h0 : linkMatch line = [] := linkMatch_none line hne
    refine .inr ?_
    cases headerText 1 line with
    | some t => exact .inl ⟨h0, t, rfl, rfl⟩
    | none =>
    refine .inr ?_
    cases headerText 2 line with
    | some t => exact .inl ⟨h0, rfl, t, rfl, rfl⟩
    | none =>
    refine .inr ?_
    cases headerText 3 line with
    | some t => exact .inl ⟨h0, rfl, rfl, t, rfl, rfl⟩
    | none =>
    refine .inr ?_
    -- the three header recognisers have answered `[]`: those conjuncts go
    simp only [true_and]
    split
    · exact .inl ⟨h0, _, rfl, rfl⟩
    · exact .inr (.inl ⟨h0, bulletMatch_none _ nofun, _, rfl, rfl⟩)
    · rename_i hb hq
      refine .inr (.inl ⟨h0, bulletMatch_none _ nofun, _, ?_, rfl⟩)
      unfold quoteMatch; split
      · rename_i t' heq; exact (hq _ (List.cons.inj heq).2).elim
      · rename_i heq; cases heq; rfl
      · rename_i hn; exact (hn _ rfl).elim
    · rename_i hb hq1 hq2
      exact .inr (.inr ⟨h0, bulletMatch_none _ hb, quoteMatch_none _ hq1 hq2, rfl⟩)

theorem linkBlock_succ (c : Colors) (t : Str) (n : Nat) :
    GenStyle.LinkBlock c t ((n : Int) + 1) = .ok (Style.linkBlock c t (n + 1)) :=
  Gen14.linkBlock_eq c t (n + 1)

/-- The text cut at the URLs the model's recogniser finds, scanning as `Plaintext.replaceUrls` does. -/
def urlPieces : Nat → Str → List Go.Piece
  | 0, _ => []
  | fuel + 1, s =>
    match s with
    | [] => []
    | ch :: rest =>
      match Plaintext.matchUrl s with
      | some (link, after) => ⟨true, link⟩ :: urlPieces fuel after
      | none => ⟨false, [ch]⟩ :: urlPieces fuel rest

def plainExt : GenPlaintext.Ext := ⟨fun text => urlPieces (text.length + 1) text⟩

theorem matchUrl_shorter (s link after : Str) (h : Plaintext.matchUrl s = some (link, after)) :
    after.length < s.length := by
  rw [← Cells.matchUrl_append s link after h, List.length_append]
  cases link with
  | cons => simp
  | nil =>
    -- wherever `matchUrl` answers `some`, the link begins with the first character
    simp only [Plaintext.matchUrl] at h
    repeat' split at h
    all_goals cases h

theorem pieces_cover_fuel (fuel : Nat) (s : Str) (h : s.length < fuel) :
    ((urlPieces fuel s).map (·.text)).flatten = s := by
  fun_induction urlPieces fuel s with
  | case1 => omega
  | case2 => rfl
  | case3 fuel ch rest link after hm ih =>
    have hs := matchUrl_shorter _ _ _ hm
    rw [hm]
    exact (congrArg (link ++ ·) (ih (by omega))).trans (Cells.matchUrl_append _ _ _ hm)
  | case4 fuel ch rest hm ih =>
    rw [hm]
    exact congrArg (ch :: ·) (ih (Nat.lt_of_succ_lt_succ h))

/-- The body of the translated loop over the pieces. -/
def plainBody (c : Colors) (piece : Go.Piece) (st : List Str × Str) : Except Panic (ForInStep (List Str × Str)) :=
  if piece.hit = true then do
    let l ← GenStyle.Link c piece.text (Go.len (st.fst ++ [piece.text]))
    pure (ForInStep.yield (st.fst ++ [piece.text], st.snd ++ l))
  else pure (ForInStep.yield (st.fst, st.snd ++ piece.text))

/-- `ghost` is arbitrary: the translated loop keeps no such record, and the model's never feeds back into text or links. -/
theorem plain_pieces (c : Colors) (fuel : Nat) (s : Str) (links : List Str) (ghost : List (Nat × Str)) (acc : Str) :
    forIn (urlPieces fuel s) (links, acc) (plainBody c) =
      .ok ((Plaintext.replaceUrls c fuel s links ghost).2.1, acc ++ (Plaintext.replaceUrls c fuel s links ghost).1) := by
  fun_induction urlPieces fuel s generalizing links ghost acc with
  | case1 | case2 => simp only [Plaintext.replaceUrls, List.append_nil]; rfl
  | case3 fuel ch rest link after hm ih =>
    simp only [List.forIn_cons, plainBody, if_true, Go.len, Gen14.link_eq, pure, Except.pure, bind, Except.bind,
      Plaintext.replaceUrls, hm]
    rw [ih (links ++ [link]) (ghost ++ [((links ++ [link]).length, link)])]
    simp
  | case4 fuel ch rest hm ih =>
    simp only [List.forIn_cons, plainBody, Bool.false_eq_true, if_false, pure, Except.pure, bind, Except.bind,
      Plaintext.replaceUrls, hm]
    rw [ih links ghost]
    simp

end Gen15P
