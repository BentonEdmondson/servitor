import Model
import Proofs.Clean
import Proofs.C13
import Proofs.C16

/-
  The clean pieces (problems, comma lists, the four-line snip, attachment lines, optional parts)
  from which posts and actors are glued.
-/

namespace PresentP
open Str Ansi Cells Present

/-- `Char.toLower` only moves `'A'..'Z'` to `'a'..'z'`: it never produces a control character. -/
theorem toLower_ctl (ch : Char) :
    Uni.isControl (Char.toLower ch) = false ∨ Char.toLower ch = ch := by
  unfold Char.toLower
  split
  · rename_i h
    left
    have h1 : 65 ≤ ch.val.toNat := by
      have := h.1; simpa [UInt32.le_iff_toNat_le] using this
    have h2 : ch.val.toNat ≤ 90 := by
      have := h.2; simpa [UInt32.le_iff_toNat_le] using this
    simp only [Uni.isControl, Char.toNat, UInt32.toNat_add]
    have : ('a'.val - 'A'.val).toNat = 32 := by decide
    rw [this]
    generalize ch.val.toNat = n at *
    have h3 : (n + 32) % 2 ^ 32 = n + 32 := by omega
    rw [h3]
    simp
    omega
  · right; rfl

theorem noCtl_lower (s : Str) (h : Safe.noCtl s = true) : Safe.noCtl (lower s) = true := by
  rw [noCtl_iff] at *
  intro c hc
  simp only [lower, List.mem_map] at hc
  obtain ⟨x, hx, rfl⟩ := hc
  rcases toLower_ctl x with h1 | h1
  · exact Or.inr h1
  · rw [h1]; exact h x hx

theorem clean_lower (s : Str) (h : Safe.noCtl s = true) : Clean (lower s) :=
  clean_plain _ (noCtl_lower s h)

/-- The optional parts of a post or an actor: `center`, `supplement`, the actor's `footer`. -/
theorem clean_part {o : Option Str} (ho : ∀ s, o = some s → Clean s) {f : Str → Str} {d : Str}
    (hf : ∀ s, Clean s → Clean (f s)) (hd : Clean d) :
    Clean (match (generalizing := false) o with | some s => f s | none => d) := by
  cases o with
  | some s => exact hf s (ho s rfl)
  | none => exact hd

/-- A part set off by an empty line and indented by two, as `String()` shows body and attachments. -/
theorem clean_para (s : Str) (h : Clean s) : Clean ('\n' :: '\n' :: Ansi.indent s [' ', ' '] true) :=
  clean_nl_cons _ (clean_nl_cons _ (clean_indent _ _ _ h (by decide)))

section
variable (c : Colors) (hc : ColorsOk c)
include hc

theorem clean_problem (m : Str) : Clean (problem c m) :=
  clean_red c hc _ (clean_plain _ (scrub_noCtl m))

theorem clean_colorPlain (s : Str) (h : Safe.noCtl s = true) : Clean (Style.color c s) :=
  clean_color c hc _ (clean_plain _ h)

theorem clean_joinComma : ∀ xs : List Str, (∀ x ∈ xs, Clean x) → Clean (joinComma c xs)
  | [], _ => clean_nil
  | [x], h => clean_color c hc x (h x (by simp))
  | x :: y :: xs, h => by
    show Clean (Style.color c x ++ ", ".toList ++ joinComma c (y :: xs))
    exact clean_append _ _ (clean_append _ _ (clean_color c hc x (h x (by simp)))
      (clean_plain _ (by decide)))
      (clean_joinComma (y :: xs) (fun z hz => h z (List.mem_cons_of_mem _ hz)))

theorem snip4 (s : Str) (w : Int) (hs : Clean s) :
    ∃ out, snip s w 4 (Style.color c ['…']) = .ok out ∧ Clean out ∧ Ansi.height out ≤ 4 := by
  have hnl : '\n' ∉ Style.color c ['…'] := by
    have e : Style.color c ['…'] = render [⟨["38;2;".toList ++ c.primary], '…'⟩] :=
      apply_render [⟨[], '…'⟩] (by decide) _
    rw [e]
    exact nl_not_mem_render_list _ (by simpa [cell_ok_iff, ESC] using hc.1) (by simp)
  obtain ⟨out, ho, hh⟩ := SnipP.snip_height s w 4 (Style.color c ['…']) (by omega) hnl
  exact ⟨out, ho, clean_snip s w 4 _ out hs (clean_colorPlain c hc _ (by decide)) ho, by omega⟩

omit hc in
theorem altText_noCtl (l : LinkV)
    (hl : (∀ a, l.alt = .ok a → Safe.noCtl a = true) ∧ (∀ u, l.uri = .ok u → Safe.noCtl u = true)) :
    ∀ t, l.altText = .ok t → Safe.noCtl t = true := by
  intro t h
  unfold LinkV.altText at h
  split at h
  · rename_i a h'
    cases h; exact hl.1 _ h'
  · split at h
    · rename_i u h'
      cases h; exact hl.2 _ h'
    · cases h
    · cases h
  · cases h

theorem clean_supplementLines (w : Int) (base : Nat) :
    ∀ (as : List LinkV) (i : Nat),
      (∀ l ∈ as, (∀ a, l.alt = .ok a → Safe.noCtl a = true) ∧ (∀ u, l.uri = .ok u → Safe.noCtl u = true)) →
      ∀ s ∈ supplementLines c w base as i, Clean s
  | [], _, _ => by intro s hs; simp [supplementLines] at hs
  | a :: as, i, h => by
    intro s hs
    simp only [supplementLines, List.mem_cons] at hs
    rcases hs with hs | hs
    · subst hs
      split
      · exact clean_linkBlock c hc _ _ (clean_wrap _ _ (clean_problem c hc _))
      · rename_i alt hal
        exact clean_linkBlock c hc _ _ (clean_wrap _ _
          (clean_plain _ (altText_noCtl a (h a (by simp)) alt hal)))
    · exact clean_supplementLines w base as (i + 1) (fun l hl => h l (List.mem_cons_of_mem _ hl)) s hs

end

theorem clean_activityHeader (c : Colors) (kind actorName : Str) (w : Int) (hn : Clean actorName) :
    Clean (activityHeader c kind actorName w) := by
  refine clean_if _ clean_nil (clean_wrap _ _ (clean_append _ _ (clean_append _ _ hn
    (clean_cons _ (Or.inr (by decide)) _ ?_)) (clean_plain _ (by decide))))
  exact clean_if _ (clean_plain _ (by decide))
    (clean_if _ (clean_plain _ (by decide)) (clean_plain _ (by decide)))

end PresentP

