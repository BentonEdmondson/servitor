import Model.History
import Model.Feed
import Generated.GoHistory
import Generated.GoFeed

/-
  Closed forms for the `for i, e := range input` loops of the generated `GenFeed.Append` /
  `GenFeed.Prepend` (for `Props/Gen18.lean`).
-/

namespace Gen18

theorem index_natCast {β : Type} (xs : List β) (n : Nat) :
    Go.index xs (n : Int) =
      match xs[n]? with
      | some x => .ok x
      | none => .error .indexOutOfRange := by
  have h1 : ¬ ((n : Int) < 0) := by omega
  unfold Go.index
  rw [if_neg h1, Int.toNat_natCast]
  cases xs[n]? <;> rfl

def enumFrom {β : Type} (k : Nat) (xs : List β) : List (Int × β) :=
  (xs.zipIdx k).map fun p => ((p.2 : Int), p.1)

theorem enumerate_eq_enumFrom {β : Type} (xs : List β) : Go.enumerate xs = enumFrom 0 xs := rfl

@[simp] theorem enumFrom_nil {β : Type} (k : Nat) : enumFrom k ([] : List β) = [] := rfl

@[simp] theorem enumFrom_cons {β : Type} (k : Nat) (x : β) (xs : List β) :
    enumFrom k (x :: xs) = ((k : Int), x) :: enumFrom (k + 1) xs := by
  simp [enumFrom, List.zipIdx_cons]

/-- A `for i, e := range xs` loop that stores `e` under the key `g i`, where `g` is one-to-one with
    inverse `g'`: afterwards key `j` holds `xs[g' j]` when that exists, and what it held before
    otherwise.  (`k` is the index the enumeration starts from.) -/
theorem foldl_set {α : Type} (g g' : Int → Int) (hg : ∀ i j, j = g i ↔ g' j = i)
    (xs : List α) (k : Nat) (m : Int → Option α) (j : Int) :
    (List.foldl (fun (m : Go.Map Int (Option α)) (p : Int × Option α) => Go.mapSet m (g p.1) p.2) m
        (enumFrom k (xs.map some))) j
      = if k ≤ g' j ∧ g' j < k + xs.length then xs[(g' j - k).toNat]? else m j := by
  induction xs generalizing k m with
  | nil => exact (if_neg (by simp only [List.length_nil]; omega)).symm
  | cons x rest ih =>
    simp only [List.map_cons, enumFrom_cons, List.foldl_cons, ih, List.length_cons, Go.mapSet, hg]
    by_cases h1 : g' j = k
    · rw [if_neg (by omega), if_pos h1, if_pos (by omega), h1, Int.sub_self]
      rfl
    · by_cases h2 : ((k + 1 : Nat) : Int) ≤ g' j ∧ g' j < ((k + 1 : Nat) : Int) + rest.length
      · have e : (g' j - (k : Int)).toNat = (g' j - ((k + 1 : Nat) : Int)).toNat + 1 := by omega
        rw [if_pos h2, if_pos (by omega), e, List.getElem?_cons_succ]
      · rw [if_neg h2, if_neg h1, if_neg (by omega)]

/-- A loop that only rewrites the `feed` field, at a key computed from the unchanged fields. -/
theorem foldl_feed_only {T : Type} (key : GenFeed.Feed T → Int)
    (hkey : ∀ s m, key { s with feed := m } = key s)
    (op : Int → Int → Int) (ps : List (Int × Option T)) (f : GenFeed.Feed T) :
    List.foldl (fun (s : GenFeed.Feed T) (p : Int × Option T) =>
        { s with feed := Go.mapSet s.feed (op (key s) p.1) p.2 }) f ps
      = { f with feed := List.foldl (fun (m : Go.Map Int (Option T)) (p : Int × Option T) =>
            Go.mapSet m (op (key f) p.1) p.2) f.feed ps } := by
  induction ps generalizing f with
  | nil => rfl
  | cons p ps ih => simp only [List.foldl_cons, ih, hkey]

end Gen18
