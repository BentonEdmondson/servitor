import Model
import Proofs.Cells

/-
  `Clean` is `Rendered (·.clean = true)` (`clean_eq_rendered`): its closure under append, split
  and join is that of `Rendered`, under `apply` and `indent` it follows from what these do to
  cells, and `Safe.safeF` runs over a rendering of clean cells as `termRun` does.
-/

namespace Cells
open Str Ansi

theorem cell_clean_iff (c : Cell) :
    c.clean = true ↔ c.ok = true ∧ (c.ch = '\n' ∨ Uni.isControl c.ch = false) := by
  simp [Cell.clean]

theorem Cell.clean_ok {c : Cell} (h : c.clean = true) : c.ok = true := ((cell_clean_iff c).1 h).1

theorem clean_ok_all {cs : List Cell} (h : ∀ c ∈ cs, c.clean = true) : ∀ c ∈ cs, c.ok = true :=
  fun c hc => Cell.clean_ok (h c hc)

theorem esc_control : Uni.isControl ESC = true := by decide

theorem clean_nil : Clean [] := ⟨[], by simp, rfl⟩

theorem clean_cells (cs : List Cell) (h : ∀ c ∈ cs, c.clean = true) : Clean (render cs) :=
  ⟨cs, h, rfl⟩

theorem clean_cell (c : Cell) (hc : c.clean = true) : Clean c.render :=
  ⟨[c], by simpa using hc, by simp [render]⟩

theorem clean_append (s t : Str) (hs : Clean s) (ht : Clean t) : Clean (s ++ t) := by
  rw [clean_eq_rendered] at *
  exact rendered_append hs ht

theorem clean_flatten (L : List Str) (h : ∀ l ∈ L, Clean l) : Clean L.flatten := by
  induction L with
  | nil => exact clean_nil
  | cons l L ih =>
    have h := List.forall_mem_cons.1 h
    exact clean_append _ _ h.1 (ih h.2)

theorem bare_clean (ch : Char) (h : ch = '\n' ∨ Uni.isControl ch = false) :
    (⟨[], ch⟩ : Cell).clean = true := by
  rw [cell_clean_iff, cell_ok_iff]
  refine ⟨⟨?_, by simp, Or.inr rfl⟩, h⟩
  rintro rfl
  revert h
  decide

theorem noCtl_iff (s : Str) :
    Safe.noCtl s = true ↔ ∀ c ∈ s, c = '\n' ∨ Uni.isControl c = false := by
  simp [Safe.noCtl]

theorem clean_plain (s : Str) (h : Safe.noCtl s = true) : Clean s := by
  refine ⟨plain s, fun c hc => ?_, (render_plain s).symm⟩
  obtain ⟨x, hx, rfl⟩ := List.mem_map.1 hc
  exact bare_clean x ((noCtl_iff s).1 h x hx)

theorem clean_char (ch : Char) (h : ch = '\n' ∨ Uni.isControl ch = false) : Clean [ch] :=
  clean_cell ⟨[], ch⟩ (bare_clean ch h)

theorem clean_nl : Clean ['\n'] := clean_char '\n' (Or.inl rfl)

theorem clean_cons (ch : Char) (h : ch = '\n' ∨ Uni.isControl ch = false) (s : Str) (hs : Clean s) :
    Clean (ch :: s) := clean_append [ch] s (clean_char ch h) hs

theorem clean_if (b : Prop) [Decidable b] {x y : Str} (hx : Clean x) (hy : Clean y) :
    Clean (if b then x else y) := by
  split <;> assumption

theorem scrub_noCtl (s : Str) : Safe.noCtl (Ansi.scrub s) = true := by
  rw [noCtl_iff]
  intro c hc
  simp only [scrub, List.mem_filter] at hc
  simpa using hc.2

theorem noCtl_append (s t : Str) :
    Safe.noCtl (s ++ t) = true ↔ Safe.noCtl s = true ∧ Safe.noCtl t = true := by
  simp [Safe.noCtl]

theorem noCtl_sublist {s t : Str} (h : t.Sublist s) (hs : Safe.noCtl s = true) :
    Safe.noCtl t = true := by
  rw [noCtl_iff] at hs ⊢
  exact fun c hc => hs c (h.subset hc)

theorem noCtl_rep (ch : Char) (n : Nat) (h : Uni.isControl ch = false) :
    Safe.noCtl (rep ch n) = true := by
  rw [noCtl_iff]
  intro c hc
  rw [rep] at hc
  rw [List.eq_of_mem_replicate hc]
  exact Or.inr h

theorem clean_joinNL (ls : List Str) (h : ∀ l ∈ ls, Clean l) : Clean (joinNL ls) := by
  rw [clean_eq_rendered] at *
  exact rendered_joinNL (by decide) ls h

theorem clean_splitNL (s : Str) (h : Clean s) : ∀ l ∈ splitNL s, Clean l := by
  rw [clean_eq_rendered] at *
  exact rendered_splitNL (fun _ => Cell.clean_ok) h

theorem addAttr_clean (c : Cell) (a : Str) (hc : c.clean = true) (ha : sgrOk a = true) :
    (addAttr a c).clean = true := by
  rw [cell_clean_iff] at hc ⊢
  have hch : (addAttr a c).ch = c.ch := by
    unfold addAttr
    split <;> rfl
  exact ⟨addAttr_ok c a hc.1 ha, hch ▸ hc.2⟩

def CleanRaw (m : RawCell) : Prop := ∃ c : Cell, c.clean = true ∧ m = c.raw

theorem clean_expand (s : Str) (h : Clean s) : ∀ m ∈ expand s, CleanRaw m := by
  obtain ⟨cs, hcs, rfl⟩ := h
  rw [expand_render cs (clean_ok_all hcs)]
  intro m hm
  simp only [List.mem_map] at hm
  obtain ⟨c, hc, rfl⟩ := hm
  exact ⟨c, hcs c hc, rfl⟩

theorem CleanRaw.full {m : RawCell} (h : CleanRaw m) : Clean m.full := by
  obtain ⟨c, hc, rfl⟩ := h
  exact clean_cell c hc

theorem clean_collapse (l : List RawCell) (h : ∀ m ∈ l, CleanRaw m) : Clean (collapse l) :=
  clean_flatten _ (List.forall_mem_map.2 fun m hm => (h m hm).full)

theorem clean_apply (s a : Str) (h : Clean s) (ha : sgrOk a = true) : Clean (apply s a) := by
  refine clean_flatten _ (List.forall_mem_map.2 fun m hm => ?_)
  obtain ⟨c, hc, rfl⟩ := clean_expand s h m hm
  rw [apply_cell c (Cell.clean_ok hc) a]
  exact clean_cell _ (addAttr_clean c a hc ha)

theorem clean_indent (s pfx : Str) (first : Bool) (h : Clean s) (hp : Safe.noCtl pfx = true) :
    Clean (indent s pfx first) := by
  refine clean_append _ _ (clean_if _ (clean_plain pfx hp) clean_nil)
    (clean_flatten _ (List.forall_mem_map.2 fun m hm => ?_))
  exact clean_if _ (clean_cons '\n' (Or.inl rfl) _ (clean_plain pfx hp)) (clean_expand s h m hm).full

theorem cleanRaw_cells (l : List RawCell) (h : ∀ m ∈ l, CleanRaw m) :
    ∃ cs : List Cell, (∀ c ∈ cs, c.clean = true) ∧ l = cs.map Cell.raw := by
  induction l with
  | nil => exact ⟨[], by simp, rfl⟩
  | cons m l ih =>
    have h := List.forall_mem_cons.1 h
    obtain ⟨c, hc, rfl⟩ := h.1
    obtain ⟨cs, hcs, rfl⟩ := ih h.2
    exact ⟨c :: cs, List.forall_mem_cons.2 ⟨hc, hcs⟩, rfl⟩

theorem collapse_map_raw (cs : List Cell) : collapse (cs.map Cell.raw) = render cs := by
  rw [collapse, List.map_map]
  rfl

theorem safeF_nil (f : Nat) : Safe.safeF f [] = true := by
  cases f <;> rfl

theorem safeF_char (f : Nat) (ch : Char) (h : ch = '\n' ∨ Uni.isControl ch = false) (hE : ch ≠ ESC)
    (s : Str) : Safe.safeF (f + 1) (ch :: s) = Safe.safeF f s := by
  rw [Safe.safeF]
  simp only [hE, if_false]
  rcases h with h | h <;> simp [h]

theorem safeF_sgr (f : Nat) (a : Str) (ha : Digs a) (s : Str) :
    Safe.safeF (f + 1) (ESC :: '[' :: (a ++ 'm' :: s)) = Safe.safeF f s := by
  rw [Safe.safeF]
  simp only [if_true, Safe.afterSgr]
  rw [sgrParams_digs _ _ ha]

theorem safeF_reset (f : Nat) (s : Str) : Safe.safeF (f + 1) (reset ++ s) = Safe.safeF f s :=
  safeF_sgr f ['0'] digs_zero s

theorem safeF_pre (as : List Str) (has : ∀ a ∈ as, Digs a) (s : Str) (f : Nat) :
    Safe.safeF (f + as.length) (preOf as ++ s) = Safe.safeF f s := by
  induction as with
  | nil => simp
  | cons a as ih =>
    have has' := List.forall_mem_cons.1 has
    rw [preOf_cons_append, List.length_cons, ← Nat.add_assoc, safeF_sgr _ _ has'.1, ih has'.2]

theorem safeF_render (cs : List Cell) (h : ∀ c ∈ cs, c.clean = true) :
    ∀ fuel, (render cs).length ≤ fuel → Safe.safeF fuel (render cs) = true := by
  induction cs with
  | nil => intro fuel _; exact safeF_nil fuel
  | cons c cs ih =>
    intro fuel hf
    have h' := List.forall_mem_cons.1 h
    have hcc := (cell_clean_iff c).1 h'.1
    have hc := (cell_ok_iff c).1 hcc.1
    rw [render_cons] at hf ⊢
    rcases render_cases c _ fuel hf with ⟨_, e, f, rfl, hf'⟩ | ⟨_, e, f, rfl, hf'⟩
    · rw [e, List.singleton_append, safeF_char f c.ch hcc.2 hc.1, ih h'.2 f hf']
    · rw [e, List.append_assoc, List.cons_append,
        safeF_pre c.attrs (fun a ha => sgrOk_digs (hc.2.1 a ha)), safeF_char _ c.ch hcc.2 hc.1,
        safeF_reset, ih h'.2 f hf']

end Cells
