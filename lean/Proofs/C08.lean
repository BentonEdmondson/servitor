import Model

/-
  `Conc`: the invariant `Good` of `Conc.step` (every thread disciplined from
  where it stands, one holder per mutex and token), from which no race, no double emit, no deadlock
  and termination follow.  `C08aux`: `String.splitOn` in a form the kernel can run, for the
  evaluations over the extracted skeleton in Props/C08.lean.
-/

namespace Conc

theorem stepThread_spec {pol : Policy} {s : Sys} {t t' : Thread}
    (hd : disciplinedFrom pol t.rest t.holdsM t.toks = true)
    (hs : stepThread s t = some t') :
    disciplinedFrom pol t'.rest t'.holdsM t'.toks = true ∧
    (t'.holdsM = true → t.holdsM = true ∨ s.mutexFree = true) ∧
    (∀ k ∈ t'.toks, k ∈ t.toks ∨ s.tokFree k = true) ∧
    t'.rest.length < t.rest.length := by
  obtain ⟨rest, m, toks⟩ := t
  rcases rest with _ | ⟨a, r⟩
  · cases hs
  cases a <;> simp only [stepThread] at hs <;>
    simp only [disciplinedFrom, Bool.and_eq_true, List.isEmpty_iff] at hd
  case lock =>
    split at hs <;> cases hs
    exact ⟨hd.2, fun _ => .inr ‹_›, fun _ h => .inl h, Nat.lt_succ_self _⟩
  case unlock => cases hs; exact ⟨hd.2, nofun, fun _ h => .inl h, Nat.lt_succ_self _⟩
  case acquire k =>
    obtain ⟨⟨rfl, rfl⟩, hr⟩ := hd
    split at hs <;> cases hs
    · refine ⟨hr, .inl, fun k' hk' => .inr ?_, Nat.lt_succ_self _⟩
      rwa [List.mem_singleton.mp hk']
    · -- the thread gives up and only unlocks; `r` is not empty since it still holds `k` there
      cases r with
      | nil => cases hr
      | cons => exact ⟨rfl, .inl, nofun, Nat.succ_lt_succ (Nat.succ_pos _)⟩
  case release k =>
    cases hs
    exact ⟨hd.2, .inl, fun _ h => .inl (List.mem_of_mem_erase h), Nat.lt_succ_self _⟩
  all_goals cases hs; exact ⟨hd.2, .inl, fun _ h => .inl h, Nat.lt_succ_self _⟩

structure Good (pol : Policy) (s : Sys) : Prop where
  disc : ∀ (i : Nat) (t : Thread), s.threads[i]? = some t → disciplinedFrom pol t.rest t.holdsM t.toks = true
  mutex : ∀ (i j : Nat) (ti tj : Thread), s.threads[i]? = some ti → s.threads[j]? = some tj →
    ti.holdsM = true → tj.holdsM = true → i = j
  tok : ∀ (i j : Nat) (ti tj : Thread) (k : Tok), s.threads[i]? = some ti → s.threads[j]? = some tj →
    k ∈ ti.toks → k ∈ tj.toks → i = j

theorem step_inv {s s' : Sys} {i : Nat} (hs : step s i = some s') :
    ∃ t t', s.threads[i]? = some t ∧ stepThread s t = some t' ∧ s'.threads = s.threads.set i t' := by
  unfold step at hs
  split at hs
  · cases hs
  · rename_i t ht
    split at hs <;> cases hs
    exact ⟨t, _, ht, ‹_›, rfl⟩

theorem mutexFree_iff {s : Sys} : s.mutexFree = true ↔ ∀ t ∈ s.threads, t.holdsM = false := by
  simp [Sys.mutexFree]

theorem tokFree_iff {s : Sys} {k : Tok} : s.tokFree k = true ↔ ∀ t ∈ s.threads, k ∉ t.toks := by
  simp [Sys.tokFree]

theorem getElem?_set_cases {α : Type} {l : List α} {i j : Nat} {x y : α}
    (h : (l.set i x)[j]? = some y) : (j = i ∧ y = x) ∨ (j ≠ i ∧ l[j]? = some y) := by
  rw [List.getElem?_set] at h
  split at h
  · split at h <;> cases h
    exact .inl ⟨‹i = j›.symm, rfl⟩
  · exact .inr ⟨Ne.symm ‹_›, h⟩

/-- `P` is "holds the mutex" or "holds token `k`". -/
theorem excl_set {α : Type} {P : α → Prop} {l : List α} {i : Nat} {t t' : α}
    (h : ∀ (a b : Nat) ta tb, l[a]? = some ta → l[b]? = some tb → P ta → P tb → a = b)
    (ht : l[i]? = some t) (hnew : P t' → P t ∨ ∀ x ∈ l, ¬ P x) :
    ∀ (a b : Nat) ta tb, (l.set i t')[a]? = some ta → (l.set i t')[b]? = some tb → P ta → P tb → a = b := by
  have key : ∀ b tb, l[b]? = some tb → P t' → P tb → i = b := fun b tb hb hp hpb =>
    (hnew hp).elim (fun hpt => h i b t tb ht hb hpt hpb)
      (fun hfree => absurd hpb (hfree tb (List.mem_of_getElem? hb)))
  intro a b ta tb ha hb hpa hpb
  rcases getElem?_set_cases ha with ⟨rfl, rfl⟩ | ⟨_, ha'⟩ <;>
    rcases getElem?_set_cases hb with ⟨rfl, rfl⟩ | ⟨_, hb'⟩
  · rfl
  · exact key b tb hb' hpa hpb
  · exact (key a ta ha' hpb hpa).symm
  · exact h a b ta tb ha' hb' hpa hpb

theorem Good.step {pol : Policy} {s s' : Sys} {i : Nat} (hg : Good pol s)
    (hs : Conc.step s i = some s') : Good pol s' := by
  obtain ⟨t, t', ht, hst, hs'⟩ := step_inv hs
  obtain ⟨hd, hm, hk, _⟩ := stepThread_spec (hg.disc i t ht) hst
  refine ⟨fun j tj hj => ?_, ?_, fun a b ta tb k => ?_⟩ <;> rw [hs'] at *
  · rcases getElem?_set_cases hj with ⟨_, rfl⟩ | ⟨_, hj'⟩
    · exact hd
    · exact hg.disc j tj hj'
  · exact excl_set hg.mutex ht fun h => (hm h).imp_right fun hf x hx => by
      simp [mutexFree_iff.mp hf x hx]
  · exact excl_set (P := (k ∈ ·.toks)) (fun a b ta tb => hg.tok a b ta tb k) ht (fun h =>
      (hk k h).imp_right tokFree_iff.mp) a b ta tb

theorem Good.init {pol : Policy} {prog : List Template} (h : Disciplined pol prog) :
    Good pol { threads := prog.map fun tpl => { rest := tpl } } := by
  constructor
  · intro i t hi
    obtain ⟨tpl, htpl, rfl⟩ := List.mem_map.mp (List.mem_of_getElem? hi)
    exact h tpl htpl
  · intro i j ti tj hi _ hm
    obtain ⟨_, _, rfl⟩ := List.mem_map.mp (List.mem_of_getElem? hi)
    cases hm
  · intro i j ti tj k hi _ hk
    obtain ⟨_, _, rfl⟩ := List.mem_map.mp (List.mem_of_getElem? hi)
    cases hk

theorem good_of_reachable {pol : Policy} {prog : List Template} (h : Disciplined pol prog)
    {s : Sys} (hr : Reachable prog s) : Good pol s := by
  induction hr with
  | init => exact Good.init h
  | step s s' i _ hs ih => exact ih.step hs

theorem Good.access_excl {pol : Policy} {s : Sys} (hg : Good pol s) {i j : Nat} {ti tj : Thread}
    {v : Var} {b : Act} {ri rj : Template} (hi : s.threads[i]? = some ti) (hj : s.threads[j]? = some tj)
    (hri : ti.rest = .write v :: ri) (hrj : tj.rest = b :: rj) (hb : b = .read v ∨ b = .write v) :
    i = j := by
  have hdi := hri ▸ hg.disc i ti hi
  have hdj := hrj ▸ hg.disc j tj hj
  -- unguarded `v`: both hold the mutex; guarded by `k`: the writer holds the mutex and `k`, the other one of the two
  cases hp : pol v <;> rcases hb with rfl | rfl <;>
    simp only [disciplinedFrom, hp, Bool.and_eq_true, Bool.or_eq_true, Bool.or_false, Bool.and_true,
      List.contains_iff_mem] at hdi hdj
  · exact hg.mutex i j ti tj hi hj hdi.1 hdj.1
  · exact hg.mutex i j ti tj hi hj hdi.1 hdj.1
  · exact hdj.1.elim (hg.mutex i j ti tj hi hj hdi.1.1) (hg.tok i j ti tj _ hi hj hdi.1.2)
  · exact hg.tok i j ti tj _ hi hj hdi.1.2 hdj.1.2

theorem Good.no_race {pol : Policy} {s : Sys} (hg : Good pol s) : ¬ Race s := by
  rintro ⟨i, j, ti, tj, a, b, ri, rj, hij, hi, hj, hri, hrj, hc⟩
  unfold conflict at hc
  split at hc <;> simp only [Bool.false_eq_true, decide_eq_true_eq] at hc <;> subst hc
  · exact hij (hg.access_excl hj hi hrj hri (.inl rfl)).symm
  · exact hij (hg.access_excl hi hj hri hrj (.inl rfl))
  · exact hij (hg.access_excl hi hj hri hrj (.inr rfl))

theorem Good.no_double_emit {pol : Policy} {s : Sys} (hg : Good pol s) : ¬ DoubleEmit s := by
  rintro ⟨i, j, ti, tj, ri, rj, hij, hi, hj, hri, hrj⟩
  have hdi := hri ▸ hg.disc i ti hi
  have hdj := hrj ▸ hg.disc j tj hj
  simp only [disciplinedFrom, Bool.and_eq_true] at hdi hdj
  exact hij (hg.mutex i j ti tj hi hj hdi.1 hdj.1)

theorem stepThread_none {pol : Policy} {s : Sys} {t : Thread}
    (hd : disciplinedFrom pol t.rest t.holdsM t.toks = true) (h : stepThread s t = none) :
    t.holdsM = false ∧ (t.rest = [] ∨ s.mutexFree = false) := by
  obtain ⟨rest, m, toks⟩ := t
  rcases rest with _ | ⟨a, r⟩
  · simp_all [disciplinedFrom]
  cases a <;> simp only [stepThread] at h
  case lock => simp_all [disciplinedFrom]
  case acquire => split at h <;> cases h
  all_goals cases h

theorem step_none {s : Sys} {i : Nat} {t : Thread} (hi : s.threads[i]? = some t)
    (h : step s i = none) : stepThread s t = none := by
  simp only [step, hi] at h
  split at h
  · assumption
  · cases h

theorem Good.no_deadlock {pol : Policy} {s : Sys} (hg : Good pol s) : ¬ Deadlock s := by
  rintro ⟨⟨t, ht, hne⟩, hall⟩
  have stuck : ∀ t ∈ s.threads, t.holdsM = false ∧ (t.rest = [] ∨ s.mutexFree = false) := fun t ht =>
    have ⟨i, hi⟩ := List.getElem?_of_mem ht
    stepThread_none (hg.disc i t hi) (step_none hi (hall i))
  -- nobody holds the mutex, so the unfinished thread is not waiting for it
  have hfree := mutexFree_iff.mpr fun t ht => (stuck t ht).1
  rcases (stuck t ht).2 with h | h
  · exact hne h
  · rw [hfree] at h; cases h

theorem sum_set_lt {α : Type} (f : α → Nat) (l : List α) (i : Nat) (t t' : α)
    (hi : l[i]? = some t) (hlt : f t' < f t) :
    ((l.set i t').map f).sum < (l.map f).sum := by
  induction l generalizing i with
  | nil => simp at hi
  | cons x xs ih =>
    cases i with
    | zero =>
      cases hi
      simp only [List.set_cons_zero, List.map_cons, List.sum_cons]
      omega
    | succ n =>
      have := ih n hi
      simp only [List.set_cons_succ, List.map_cons, List.sum_cons]
      omega

theorem Good.steps_decrease {pol : Policy} {s s' : Sys} {i : Nat} (hg : Good pol s)
    (hs : Conc.step s i = some s') :
    (s'.threads.map fun t => t.rest.length).sum < (s.threads.map fun t => t.rest.length).sum := by
  obtain ⟨t, t', ht, hst, hs'⟩ := step_inv hs
  rw [hs']
  exact sum_set_lt _ _ i t t' ht (stepThread_spec (hg.disc i t ht) hst).2.2.2

end Conc

namespace C08aux

theorem encode_ascii : ∀ n < 128, String.utf8EncodeChar (Char.ofNat n) = [UInt8.ofNat n] := by
  decide +kernel

/-- The characters of `s`, read off its bytes when they are all ASCII: decoding UTF-8 in general
    is far more work for the kernel. -/
def chars (s : String) : List Char :=
  if s.toByteArray.data.toList.all (· < 128) then
    s.toByteArray.data.toList.map fun b => Char.ofNat b.toNat
  else s.toList

theorem chars_eq (s : String) : chars s = s.toList := by
  unfold chars
  split
  · next h =>
    -- the string made of these characters has the bytes of `s`, so it is `s`
    have key : ∀ bs : List UInt8, bs.all (· < 128) = true →
        (bs.map fun b => Char.ofNat b.toNat).flatMap String.utf8EncodeChar = bs := by
      intro bs hbs
      induction bs with
      | nil => rfl
      | cons b bs ih =>
        simp only [List.all_cons, Bool.and_eq_true, decide_eq_true_eq] at hbs
        rw [List.map_cons, List.flatMap_cons, ih hbs.2,
          encode_ascii _ (UInt8.lt_iff_toNat_lt.mp hbs.1), UInt8.ofNat_toNat]
        rfl
    have : String.ofList (s.toByteArray.data.toList.map fun b => Char.ofNat b.toNat) = s := by
      rw [← String.toByteArray_inj, String.toByteArray_ofList, List.utf8Encode, key _ h]
      simp [ByteArray.ext_iff]
    exact String.toList_ofList.symm.trans (congrArg String.toList this)
  · rfl

def getL (l : List Char) (i : String.Pos.Raw) : Char := String.Pos.Raw.utf8GetAux l 0 i

def extractL (l : List Char) (b e : String.Pos.Raw) : String :=
  if b.byteIdx ≥ e.byteIdx then "" else String.ofList (String.Pos.Raw.extract.go₁ l 0 b e)

/-- `String.splitOnAux` on the characters `l`, `sep` and the byte sizes `n`, `m` of two strings,
    unrolled `k` times.  The original is defined by well-founded recursion, which the kernel does
    not unfold; this one it runs, on literals, when `k` is large enough. -/
def splitL (l sep : List Char) (n m : Nat) :
    Nat → String.Pos.Raw → String.Pos.Raw → String.Pos.Raw → List String → List String
  | 0, b, i, j, r => (String.ofList l).splitOnAux (String.ofList sep) b i j r
  | k+1, b, i, j, r =>
    let i' := i + getL l i
    let j' := j + getL sep j
    if decide (i.byteIdx ≥ n) then (extractL l b i :: r).reverse
    else if getL l i == getL sep j then
      if decide (j'.byteIdx ≥ m) then splitL l sep n m k i' i' 0 (extractL l b (i'.unoffsetBy j') :: r)
      else splitL l sep n m k b i' j' r
    else splitL l sep n m k b ((i.unoffsetBy j) + getL l (i.unoffsetBy j)) 0 r

theorem splitL_eq (k : Nat) (s sep : String) (b i j : String.Pos.Raw) (r : List String) :
    splitL s.toList sep.toList s.utf8ByteSize sep.utf8ByteSize k b i j r = s.splitOnAux sep b i j r := by
  induction k generalizing b i j r with
  | zero => simp only [splitL, String.ofList_toList]
  | succ k ih =>
    rw [String.splitOnAux]
    simp only [splitL, ih, getL, extractL, String.Pos.Raw.get, String.Pos.Raw.next, String.Pos.Raw.atEnd,
      String.Pos.Raw.extract]
    rfl

theorem splitOn_eq (s sep : String) : s.splitOn sep =
    if sep == "" then [s] else
      splitL (chars s) (chars sep) s.utf8ByteSize sep.utf8ByteSize
        (2 * (s.utf8ByteSize + 2) * (sep.utf8ByteSize + 2)) 0 0 0 [] := by
  simp only [String.splitOn, chars_eq, splitL_eq]

end C08aux
