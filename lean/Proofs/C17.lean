import Model

/-
  Every typed accessor (C17) is a function of `Obj.lookup o k` alone, so each classification theorem
  (here and in Props/C17.lean) is proved by going through what the key can hold: nothing, or one of
  the six kinds of JSON value.
-/

namespace C17L
open Obj

/-- `n` is exactly the value of the finite double `bits` (`± m · 2^e` with `m, e` read off the
    bit pattern); `-0` denotes 0. -/
def Den (bits n : Nat) : Prop :=
  ∃ neg m e, F64.dyadic bits = some (neg, m, e) ∧
    ((m = 0 ∧ n = 0) ∨
     (m ≠ 0 ∧ neg = false ∧ ((0 ≤ e ∧ n = m * 2 ^ e.toNat) ∨ (e < 0 ∧ n * 2 ^ (-e).toNat = m))))

theorem toNat_exact (bits n : Nat) : F64.toNat? bits = some n ↔ Den bits n := by
  unfold F64.toNat? Den
  cases F64.dyadic bits with
  | none => simp
  | some t =>
    obtain ⟨neg, m, e⟩ := t
    -- the triple of `Den` is the one `dyadic` returned; then the tests of `toNat?` in their order
    -- against the alternatives of `Den`
    refine Iff.trans ?_ ⟨fun H => ⟨neg, m, e, rfl, H⟩, fun ⟨_, _, _, h, H⟩ => by cases h; exact H⟩
    dsimp only
    by_cases hm : m = 0
    · simp [hm, eq_comm]
    cases neg
    case true => simp [hm]
    by_cases he : 0 ≤ e
    · simp [hm, he, Int.not_lt.2 he, eq_comm]
    · have hd : (m % 2 ^ (-e).toNat = 0 ∧ m / 2 ^ (-e).toNat = n) ↔ n * 2 ^ (-e).toNat = m :=
        ⟨fun ⟨h, hq⟩ => hq ▸ Nat.div_mul_cancel (Nat.dvd_of_mod_eq_zero h),
          fun h => h ▸ ⟨Nat.mul_mod_left .., Nat.mul_div_cancel _ (Nat.pow_pos (by decide))⟩⟩
      simp [hm, he, Int.not_le.1 he, hd]

theorem getNumber_exact (o : List (Str × JVal)) (k : Str) (n : Nat) :
    getNumber o k = .ok n ↔ ∃ bits, lookup o k = some (.num bits) ∧ Den bits n ∧ n < 2 ^ 64 := by
  unfold getNumber getAny
  cases lookup o k with
  | none => simp
  | some v =>
    cases v with
    | num bits =>
      simp only [Option.some.injEq, JVal.num.injEq, exists_eq_left', ← toNat_exact]
      cases F64.toNat? bits with
      | none => simp
      | some n' =>
        simp only [Option.some.injEq]
        by_cases hn : n' < 2 ^ 64
        · rw [if_pos hn, Except.ok.injEq]
          exact ⟨fun h => ⟨h, h ▸ hn⟩, And.left⟩
        · rw [if_neg hn]
          exact ⟨nofun, fun ⟨h, hn'⟩ => absurd (h ▸ hn') hn⟩
    | _ => simp

theorem isEmpty_iff {α} (l : List α) : l.isEmpty = true ↔ l = [] := List.isEmpty_iff

theorem getString_ok (o : List (Str × JVal)) (k : Str) (v : Str) :
    getString o k = .ok v ↔ ∃ s, lookup o k = some (.str s) ∧ v = Ansi.scrub s ∧ v ≠ [] := by
  unfold getString getAny
  cases lookup o k with
  | none => simp
  | some w =>
    cases w with
    | str s =>
      simp only [Option.some.injEq, JVal.str.injEq, exists_eq_left', List.isEmpty_iff]
      by_cases he : Ansi.scrub s = []
      · rw [if_pos he]
        exact ⟨nofun, fun ⟨h, hne⟩ => absurd (h ▸ he) hne⟩
      · rw [if_neg he, Except.ok.injEq]
        exact ⟨fun h => ⟨h.symm, h ▸ he⟩, fun h => h.1.symm⟩
    | _ => simp

theorem scrub_mem (s : Str) (c : Char) (h : c ∈ Ansi.scrub s) :
    c = '\n' ∨ Uni.isControl c = false := by
  unfold Ansi.scrub at h
  have := (List.mem_filter.1 h).2
  simpa using this

/-- A string accessor followed by a parser (`GetTime`, `GetURL`, `GetMediaType`). -/
theorem parsed_ok {α : Type} (p : Str → Option α) (r : R Str) (t : α) :
    (match r with
      | .error e => .error e
      | .ok s => match p s with
        | some t => .ok t
        | none => .error .wrong : R α) = .ok t ↔ ∃ s, r = .ok s ∧ p s = some t := by
  cases r with
  | error e => simp
  | ok s => cases hp : p s <;> simp [hp]

theorem mime_parse_spec (s : Str) (m : Mime.MediaType) (h : Mime.parse s = some m) :
    m.essence = m.supertype ++ '/' :: m.subtype ∧ m.supertype ≠ [] ∧ m.subtype ≠ [] ∧
    (∀ c ∈ m.supertype, Mime.isTok c = true) ∧ (∀ c ∈ m.subtype, Mime.isTok c = true) ∧
    ∃ rest, s = m.essence ++ rest ∧ (∀ c, rest.head? = some c → Mime.isTok c = false) := by
  have hs := List.takeWhile_append_dropWhile (p := Mime.isTok) (l := s)
  unfold Mime.parse at h
  dsimp only at h
  by_cases h1 : (s.takeWhile Mime.isTok).isEmpty = true
  · rw [if_pos h1] at h; cases h
  rw [if_neg h1] at h
  split at h
  next r hr =>
    by_cases h2 : (r.takeWhile Mime.isTok).isEmpty = true
    · rw [if_pos h2] at h; cases h
    rw [if_neg h2] at h
    cases h
    rw [hr] at hs
    refine ⟨rfl, mt List.isEmpty_iff.2 h1, mt List.isEmpty_iff.2 h2,
      fun c => List.all_eq_true.1 List.all_takeWhile c, fun c => List.all_eq_true.1 List.all_takeWhile c,
      r.dropWhile Mime.isTok, ?_, fun c hc => ?_⟩
    · dsimp only
      rw [List.append_assoc, List.cons_append, List.takeWhile_append_dropWhile, hs]
    · have := List.head?_dropWhile_not Mime.isTok r
      rw [hc] at this
      exact this
  · cases h

end C17L
