import Model.Ui
import Model.GoCtl
import Generated.GoView

/-
  Closed forms for the three loops of the translated `view` (`Generated/GoView.lean`).  The
  translated code is read at the level of `>>=`: a bind whose left side is known is removed with
  `ok_bind` / `error_bind` / `pure_bind`, and `Except.bind` is never unfolded, so that a lemma
  stated in `do` notation matches the goal syntactically.
-/

namespace Gen16v
open Ui

variable {α β ε : Type}

theorem ok_bind (a : α) (k : α → Except ε β) : (Except.ok a >>= k) = k a := rfl

theorem error_bind (e : ε) (k : α → Except ε β) : (Except.error e >>= k) = .error e := rfl

theorem land_pure (a b : Bool) : Go.land a (pure b) = pure (a && b) := by cases a <;> rfl

/-- `for first > -ctx && Contains(first-1) { first-- }` over its budget, `Contains` inlined. -/
theorem up_loop (f : Feed.F α) (ctx : Int) (n : Nat) (x : Int) (hx : (x + ctx).toNat = n) :
    forIn (m := Except Panic) (List.replicate n ()) x (fun _ x =>
      if (!(decide (x > -ctx) && Feed.contains f (x - 1))) = true then pure (.done x)
      else pure (.yield (x - 1))) = pure (walkUp f n x) := by
  induction n generalizing x with
  | zero => rfl
  | succ n ih =>
    have h1 : x > -ctx := by omega
    simp only [List.replicate_succ, List.forIn_cons, walkUp, h1, decide_true, Bool.true_and]
    cases Feed.contains f (x - 1)
    · rfl
    · exact ih (x - 1) (by omega)

/-- `for last < ctx && Contains(last+1) { last++ }` over its budget, `Contains` inlined. -/
theorem down_loop (f : Feed.F α) (ctx : Int) (n : Nat) (x : Int) (hx : (ctx - x).toNat = n) :
    forIn (m := Except Panic) (List.replicate n ()) x (fun _ x =>
      if (!(decide (x < ctx) && Feed.contains f (x + 1))) = true then pure (.done x)
      else pure (.yield (x + 1))) = pure (walkDown f n x) := by
  induction n generalizing x with
  | zero => rfl
  | succ n ih =>
    have h1 : x < ctx := by omega
    simp only [List.replicate_succ, List.forIn_cons, walkDown, h1, decide_true, Bool.true_and]
    cases Feed.contains f (x + 1)
    · rfl
    · exact ih (x + 1) (by omega)

theorem parts_loop (r : Render α) (f : Feed.F α) (width : Int)
    (body : Int → Str × Str × Str → Except Panic (ForInStep (Str × Str × Str)))
    (hb : ∀ i a, body i a =
      match partsStep r f width a i with
      | .error e => .error e
      | .ok a' => .ok (.yield a'))
    (L : List Int) (a : Str × Str × Str) :
    forIn L a body = foldParts r f width L a := by
  induction L generalizing a with
  | nil => rfl
  | cons i is ih =>
    simp only [List.forIn_cons, hb, foldParts]
    cases partsStep r f width a i with
    | error e => rfl
    | ok a' => exact ih a'

theorem forIn_error {σ : Type} (body : β → σ → Except Panic (ForInStep σ)) (e : Panic)
    (x : β) (L : List β) (a : σ) (hb : body x a = .error e) :
    forIn (x :: L) a body = .error e := by
  simp only [List.forIn_cons, hb]
  rfl

theorem countUp_eq_offsets (first last : Int) : Go.countUp first (last + 1) = offsets first last := rfl

end Gen16v
