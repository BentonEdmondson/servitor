import Model.Link

/-
  Link selection (`Link.selectBest`, `Link.selectWithDefault`): `SelectBestLink` returns a candidate
  that none of the others is better than, in the order `NotBetter` — first whether the media type has
  the wanted supertype, then the rating.  The C20b theorems read their facts off that order.
-/

namespace Link
open Obj

/-- `SelectBestLink` does not prefer `x` to `y`: they are the same link, or both have a standing
    (does the media type have the wanted supertype?), `y` matches if `x` does, and at equal standing
    both have a rating and `y`'s is at least `x`'s. -/
def NotBetter (sup : Str) (x y : T) : Prop :=
  x = y ∨ ∃ mx my, supertypeMatches x sup = .ok mx ∧ supertypeMatches y sup = .ok my ∧ (mx = true → my = true) ∧
    (mx = my → ∃ rx ry, rating x = .ok rx ∧ rating y = .ok ry ∧ rx ≤ ry)

theorem NotBetter.trans {sup : Str} {x y z : T} (h1 : NotBetter sup x y) (h2 : NotBetter sup y z) :
    NotBetter sup x z := by
  rcases h1 with rfl | ⟨mx, my, hx, hy, hm, hr⟩
  · exact h2
  rcases h2 with rfl | ⟨my', mz, hy', hz, hm', hr'⟩
  · exact .inr ⟨mx, my, hx, hy, hm, hr⟩
  obtain rfl : my = my' := Except.ok.inj (hy.symm.trans hy')
  refine .inr ⟨mx, mz, hx, hz, fun h => hm' (hm h), fun e => ?_⟩
  have e' : mx = my := Bool.eq_iff_iff.mpr ⟨hm, fun h => e ▸ hm' h⟩
  obtain ⟨rx, ry, hrx, hry, hle⟩ := hr e'
  obtain ⟨ry', rz, hry', hrz, hle'⟩ := hr' (e'.symm.trans e)
  obtain rfl : ry = ry' := Except.ok.inj (hry.symm.trans hry')
  exact ⟨rx, rz, hrx, hrz, Nat.le_trans hle hle'⟩

theorem NotBetter.matches {sup : Str} {x y : T} (h : NotBetter sup x y) (hx : supertypeMatches x sup = .ok true) :
    supertypeMatches y sup = .ok true := by
  rcases h with rfl | ⟨mx, my, hx', hy, hm, -⟩
  · exact hx
  · rw [hy, hm (Except.ok.inj (hx'.symm.trans hx))]

theorem NotBetter.rating {sup : Str} {x y : T} (h : NotBetter sup x y)
    (hs : supertypeMatches x sup = supertypeMatches y sup) {r r' : Nat} (hr : rating y = .ok r) (hr' : rating x = .ok r') :
    r' ≤ r := by
  rcases h with rfl | ⟨mx, my, hx, hy, -, hq⟩
  · exact Nat.le_of_eq (Except.ok.inj (hr'.symm.trans hr))
  · obtain ⟨rx, ry, hrx, hry, hle⟩ := hq (Except.ok.inj (hx.symm.trans (hs.trans hy)))
    rw [← Except.ok.inj (hr'.symm.trans hrx), ← Except.ok.inj (hr.symm.trans hry)] at hle
    exact hle

theorem bestStep_spec {sup : Str} {best this b : T} (h : bestStep sup best this = .ok b) :
    (b = best ∨ b = this) ∧ NotBetter sup best b ∧ NotBetter sup this b := by
  unfold bestStep at h
  cases hb : supertypeMatches best sup with
  | error e => rw [hb] at h; cases h
  | ok bm =>
    cases ht : supertypeMatches this sup with
    | error e => rw [hb, ht] at h; cases h
    | ok tm =>
      rw [hb, ht] at h
      by_cases e : tm = bm
      · -- the same standing: the ratings decide, the earlier link on a tie
        subst e
        simp only [Bool.and_not_self, Bool.not_and_self, Bool.false_eq_true, if_false] at h
        cases htr : rating this with
        | error e => rw [htr] at h; cases h
        | ok tr =>
          cases hbr : rating best with
          | error e => rw [htr, hbr] at h; cases h
          | ok br =>
            rw [htr, hbr] at h
            obtain rfl := Except.ok.inj h
            by_cases hgt : tr > br
            · rw [if_pos hgt]
              exact ⟨.inr rfl, .inr ⟨tm, tm, hb, ht, id, fun _ => ⟨br, tr, hbr, htr, by omega⟩⟩, .inl rfl⟩
            · rw [if_neg hgt]
              exact ⟨.inl rfl, .inl rfl, .inr ⟨tm, tm, ht, hb, id, fun _ => ⟨tr, br, htr, hbr, by omega⟩⟩⟩
      · -- one matches and the other does not: the one that matches
        cases bm <;> cases tm <;> first | exact absurd rfl e | skip
        · obtain rfl := Except.ok.inj h
          exact ⟨.inr rfl, .inr ⟨false, true, hb, ht, fun _ => rfl, fun e => nomatch e⟩, .inl rfl⟩
        · obtain rfl := Except.ok.inj h
          exact ⟨.inl rfl, .inl rfl, .inr ⟨false, true, ht, hb, fun _ => rfl, fun e => nomatch e⟩⟩

theorem bestLoop_spec {sup : Str} {rest : List T} {best b : T} (h : bestLoop sup best rest = .ok b) :
    (b = best ∨ b ∈ rest) ∧ ∀ x, (x = best ∨ x ∈ rest) → NotBetter sup x b := by
  induction rest generalizing best with
  | nil =>
    obtain rfl := Except.ok.inj h
    exact ⟨.inl rfl, fun x hx => hx.elim .inl (fun h => nomatch h)⟩
  | cons this rest ih =>
    rw [bestLoop] at h
    cases hs : bestStep sup best this with
    | error e => rw [hs] at h; cases h
    | ok b1 =>
      rw [hs] at h
      obtain ⟨hmem, hbest, hthis⟩ := bestStep_spec hs
      obtain ⟨hin, hle⟩ := ih h
      have hb1 := hle b1 (.inl rfl)
      refine ⟨?_, fun x hx => ?_⟩
      · rcases hin with rfl | hin
        · exact hmem.elim .inl (fun e => .inr (e ▸ List.mem_cons_self ..))
        · exact .inr (List.mem_cons_of_mem _ hin)
      · rcases hx with rfl | hx
        · exact hbest.trans hb1
        · rcases List.mem_cons.mp hx with rfl | hx
          · exact hthis.trans hb1
          · exact hle x (.inr hx)

theorem selectBest_spec {ls : List T} {sup : Str} {l : T} (h : selectBest ls sup = .ok l) :
    l ∈ ls ∧ ∀ x ∈ ls, NotBetter sup x l := by
  cases ls with
  | nil => cases h
  | cons l0 rest =>
    rw [selectBest] at h
    cases hl : bestLoop sup l0 rest with
    | error e => rw [hl] at h; cases h
    | ok b =>
      rw [hl] at h
      obtain rfl := Except.ok.inj h
      exact ⟨List.mem_cons.mpr (bestLoop_spec hl).1, fun x hx => (bestLoop_spec hl).2 x (List.mem_cons.mp hx)⟩

theorem selectWithDefault_of_uri {l : T} {u : Str} (d : Mime.MediaType) (hu : l.uri = .ok u) :
    selectWithDefault l d = some ⟨u, match l.mediaType with
      | .ok m => m
      | .error _ => if isMediaKind l.kind then Mime.unknownSubtype (lower l.kind) else d⟩ := by
  rw [selectWithDefault, hu]
  cases l.mediaType with
  | ok m => rfl
  | error e => exact (apply_ite (fun m => some (Sel.mk u m)) _ _ _).symm

theorem selectWithDefault_inv {l : T} {d : Mime.MediaType} {s : Sel}
    (h : selectWithDefault l d = some s) :
    l.uri = .ok s.link ∧
      (l.mediaType = .ok s.mt ∨
       ((∃ e, l.mediaType = .error e) ∧
        s.mt = (if isMediaKind l.kind then Mime.unknownSubtype (lower l.kind) else d))) := by
  cases hu : l.uri with
  | error e => rw [selectWithDefault, hu] at h; cases h
  | ok u =>
    rw [selectWithDefault_of_uri d hu] at h
    obtain rfl := Option.some.inj h
    refine ⟨rfl, ?_⟩
    cases hm : l.mediaType with
    | ok m => exact .inl rfl
    | error e => exact .inr ⟨⟨e, rfl⟩, rfl⟩

end Link
