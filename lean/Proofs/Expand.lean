import Model

/-
  The scanner `expand`: its matches tile the string.
-/

namespace Ansi
open Str

theorem splitAtM_eq : ∀ (t a r : Str), splitAtM t = some (a, r) → t = a ++ 'm' :: r
  | [], _, _, h => by simp [splitAtM] at h
  | c :: cs, a, r, h => by
    unfold splitAtM at h
    split at h
    · cases h; simp [*]
    · split at h
      · next heq => cases h; simp [splitAtM_eq _ _ _ heq]
      · cases h

/-- `takePre` always leaves a character for `(.)`.  (It returns `([], s)` on every branch but the
    one that takes an iteration.) -/
theorem takePre_spec : ∀ (n : Nat) (s : Str), s ≠ [] →
    (takePre n s).1 ++ (takePre n s).2 = s ∧ (takePre n s).2 ≠ []
  | 0, _, hs => ⟨rfl, hs⟩
  | n + 1, s, hs => by
    unfold takePre
    repeat' split
    all_goals try exact ⟨rfl, hs⟩
    next heq hr =>
      obtain ⟨h1, h2⟩ := takePre_spec n _ (by simpa using hr)
      exact ⟨by simp [h1, splitAtM_eq _ _ _ heq], h2⟩

theorem collapse_nil : collapse [] = [] := rfl

theorem collapse_cons (c : RawCell) (cs : List RawCell) : collapse (c :: cs) = c.full ++ collapse cs := by
  simp [collapse]

theorem collapse_append (a b : List RawCell) : collapse (a ++ b) = collapse a ++ collapse b := by
  simp [collapse]

theorem collapse_expandF : ∀ (fuel : Nat) (s : Str), s.length ≤ fuel → collapse (expandF fuel s) = s
  | 0, s, h => by
    obtain rfl : s = [] := List.eq_nil_of_length_eq_zero (by omega)
    rfl
  | fuel + 1, s, h => by
    unfold expandF
    split
    · next hs => simpa [collapse] using (List.isEmpty_iff.mp hs).symm
    · next hs =>
      have ⟨happ, hne⟩ := takePre_spec s.length s (by simpa using hs)
      simp only
      split
      · next heq => exact absurd heq hne
      · next c r heq =>
        rw [heq] at happ
        have hlen : r.length < s.length := by
          have := congrArg List.length happ
          simp at this; omega
        split
        · next hp =>
          obtain ⟨t, rfl⟩ := List.isPrefixOf_iff_prefix.mp hp
          rw [collapse_cons, collapse_expandF fuel _ (by simp at hlen ⊢; omega)]
          simpa [reset] using happ
        · rw [collapse_cons, collapse_expandF fuel r (by omega)]
          simpa using happ

theorem collapse_expand (s : Str) : collapse (expand s) = s :=
  collapse_expandF s.length s (Nat.le_refl _)

theorem expandF_full : ∀ (fuel : Nat) (s : Str), ∀ m ∈ expandF fuel s, m.pre ++ [m.letter] <+: m.full
  | 0, _ => by simp [expandF]
  | fuel + 1, s => by
    unfold expandF
    split
    · simp
    · simp only
      split
      · simp
      · split <;> intro m hm <;> rcases List.mem_cons.mp hm with rfl | hm
        · exact ⟨reset, by simp⟩
        · exact expandF_full fuel _ m hm
        · exact ⟨[], by simp⟩
        · exact expandF_full fuel _ m hm

theorem mem_of_mem_expand {s : Str} {m : RawCell} (hm : m ∈ expand s) :
    ∀ x ∈ m.pre ++ [m.letter], x ∈ s := fun _ hx =>
  collapse_expand s ▸ List.mem_flatten.mpr
    ⟨m.full, List.mem_map.mpr ⟨m, hm, rfl⟩, (expandF_full _ _ m hm).subset hx⟩

end Ansi
