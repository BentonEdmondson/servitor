import Model

/-
  One walk gives both the labels (`ghost = ideal links`) and the width independence of the links: `Pair`, two runs in
  different contexts from the same good link state end in the same good state. Last, `Select` reads a printed number back.
-/

namespace C12P
open Str Hypertext Dom

def ideal (links : List Str) : List (Nat × Str) := links.zipIdx.map fun (l, i) => (i + 1, l)

def Good (s : LinkSt) : Prop := s.ghost = ideal s.links

/-- The step every renderer makes at a numbered element: the new link goes in under the new
    length. -/
theorem ideal_push {links : List Str} {ghost : List (Nat × Str)} (h : ghost = ideal links) (l : Str) :
    ghost ++ [((links ++ [l]).length, l)] = ideal (links ++ [l]) := by
  simp [h, ideal, List.zipIdx_append]

theorem good_push {s : LinkSt} (h : Good s) (l : Str) : Good (s.push l).1 := ideal_push h l

/-- Two runs (different context) from the same good link state end in the same, good, state. -/
def Pair (x y : LinkSt) : Prop := x = y ∧ Good x

theorem pair_refl {x : LinkSt} (h : Good x) : Pair x x := ⟨rfl, h⟩

theorem pair_ite {b : Prop} [Decidable b] {x y x' y' : Str × LinkSt}
    (hx : Pair x.2 x'.2) (hy : Pair y.2 y'.2) :
    Pair (if b then x else y).2 (if b then x' else y').2 := by
  split <;> assumption

/-- A branch that builds its text around a state.  Said apart because the unifier, asked to see
    `(t, s).2` as `r.2`, first tries `(t, s) =?= r` and unfolds `t` all the way down. -/
theorem pair_mk {t t' : Str} {s s' : LinkSt} (h : Pair s s') : Pair (t, s).2 (t', s').2 := h

/-- Two loops that thread the link state, after a step that is a `Pair`. -/
theorem pair_seq {F F' : LinkSt → Str → Str × LinkSt} {r r' : Str × LinkSt} {a a' : Str}
    (hr : Pair r.2 r'.2) (hF : ∀ s a a', Good s → Pair (F s a).2 (F' s a').2) :
    Pair (F r.2 a).2 (F' r'.2 a').2 :=
  hr.1 ▸ hF _ _ _ hr.2

/-- An element, given its children: down the tag chain of `renderNode`, one line per test.  No
    test looks at the context; a branch leaves the state alone, pushes one link, renders the
    children, or pushes and then renders them. -/
theorem elem_pair (c : Colors) (tag : Str) (attrs : List (Str × Str)) (kids : List Node)
    (hk : ∀ ctx p ctx' p' ls, Good ls →
      Pair (renderChildren c kids ctx p ls).2 (renderChildren c kids ctx' p' ls).2)
    (hb : ∀ ctx ctx' ls, Good ls → Pair (bulleted c kids ctx ls).2 (bulleted c kids ctx' ls).2)
    (ctx : Ctx) (p : Bool) (ctx' : Ctx) (p' : Bool) (ls : LinkSt) (h : Good ls) :
    Pair (renderNode c (.elem tag attrs kids) ctx p ls).2
      (renderNode c (.elem tag attrs kids) ctx' p' ls).2 := by
  have k := fun {ctx p ctx' p'} => hk ctx p ctx' p' ls h
  rw [renderNode, renderNode]
  refine pair_ite (pair_ite k (pair_mk (hk _ _ _ _ _ (good_push h _)))) ?_  -- a
  refine pair_ite (pair_mk k) ?_  -- s, del
  refine pair_ite (pair_mk k) ?_  -- code
  refine pair_ite (pair_mk k) ?_  -- i, em
  refine pair_ite (pair_mk k) ?_  -- b, strong
  refine pair_ite (pair_mk k) ?_  -- u, ins
  refine pair_ite (pair_mk k) ?_  -- mark
  refine pair_ite k ?_  -- span
  refine pair_ite (pair_mk k) ?_  -- li
  refine pair_ite (pair_refl h) ?_  -- br
  refine pair_ite (pair_mk k) ?_  -- p, div
  refine pair_ite (pair_mk k) ?_  -- pre
  refine pair_ite (pair_mk k) ?_  -- blockquote
  refine pair_ite ?_ ?_  -- ul
  · cases p <;> cases p' <;> exact hb _ _ _ h
  cases headerLevel tag with
  | some n => exact pair_mk k
  | none =>
  refine pair_ite ?_ ?_  -- hr
  · cases hrText ctx.width <;> cases hrText ctx'.width <;> exact pair_refl h
  refine pair_ite (pair_ite (pair_refl h) (pair_refl (good_push h _))) ?_  -- img, video, audio, iframe
  exact pair_mk k

mutual
theorem node_pair (c : Colors) : (n : Node) → ∀ ctx p ctx' p' ls, Good ls →
    Pair (renderNode c n ctx p ls).2 (renderNode c n ctx' p' ls).2
  | .other => by intro ctx p ctx' p' ls h; rw [renderNode, renderNode]; exact pair_refl h
  | .text d => by
    intro ctx p ctx' p' ls h; simp only [renderNode, apply_ite Prod.snd, ite_self]; exact pair_refl h
  | .elem tag attrs kids =>
    elem_pair c tag attrs kids
      (fun ctx p ctx' p' ls h => by
        rw [renderChildren, renderChildren]; exact kids_pair c kids ctx p ctx' p' ls [] [] h)
      (fun ctx ctx' ls h => by rw [bulleted, bulleted]; exact bkids_pair c kids ctx ctx' ls [] [] h)
theorem kids_pair (c : Colors) : (ks : List Node) → ∀ ctx p ctx' p' ls acc acc', Good ls →
    Pair (renderKids c ks ctx p ls acc).2 (renderKids c ks ctx' p' ls acc').2
  | [] => by intro ctx p ctx' p' ls acc acc' h; rw [renderKids, renderKids]; exact pair_refl h
  | k :: ks => by
    intro ctx p ctx' p' ls acc acc' h
    rw [renderKids, renderKids]
    exact pair_seq (node_pair c k ctx p ctx' p' ls h) fun s a a' => kids_pair c ks ctx p ctx' p' s a a'
theorem bkids_pair (c : Colors) : (ks : List Node) → ∀ ctx ctx' ls acc acc', Good ls →
    Pair (bulletedKids c ks ctx ls acc).2 (bulletedKids c ks ctx' ls acc').2
  | [] => by intro ctx ctx' ls acc acc' h; rw [bulletedKids, bulletedKids]; exact pair_refl h
  | .other :: ks => by
    intro ctx ctx' ls acc acc' h; simp only [bulletedKids]; exact bkids_pair c ks _ _ _ _ _ h
  | .text _ :: ks => by
    intro ctx ctx' ls acc acc' h; simp only [bulletedKids]; exact bkids_pair c ks _ _ _ _ _ h
  | .elem tag attrs gk :: ks => by
    intro ctx ctx' ls acc acc' h
    rw [bulletedKids, bulletedKids, renderChildren, renderChildren]
    -- an `li` is rendered as a node; of any other element only the children are
    exact pair_seq
      (pair_ite (node_pair c (.elem tag attrs gk) ctx false ctx' false ls h)
        (pair_mk (kids_pair c gk ctx false ctx' false ls [] [] h)))
      fun s a a' => bkids_pair c ks ctx ctx' s a a'
end

theorem html_pair (c : Colors) (nodes : List Node) (w w' : Int) :
    Pair (Hypertext.renderFull c nodes w).2 (Hypertext.renderFull c nodes w').2 := by
  simp only [Hypertext.renderFull]
  exact kids_pair c nodes _ _ _ _ _ _ _ (rfl : Good {})

/-- Two states of the gemtext loop that differ in the text only, the labels good. -/
def GemPair (s s' : Gemtext.St) : Prop :=
  s.links = s'.links ∧ s.ghost = s'.ghost ∧ s.pre = s'.pre ∧ s.ghost = ideal s.links

theorem gemPair_step (c : Colors) (w w' : Int) {s s' : Gemtext.St} (line : Str) (hs : GemPair s s') :
    GemPair (Gemtext.step c w s line) (Gemtext.step c w' s' line) := by
  obtain ⟨hl, hg, hp, h⟩ := hs
  -- with `s'` read through `s`, the two steps differ in `result` and `buf` only
  simp only [GemPair, Gemtext.step, ← hl, ← hg, ← hp]
  by_cases hf : hasPrefix "```".toList line = true
  · simp only [if_pos hf]
    split <;> exact ⟨rfl, rfl, rfl, h⟩
  simp only [if_neg hf]
  split
  · exact ⟨rfl, rfl, rfl, h⟩
  split
  · exact ⟨rfl, rfl, rfl, ideal_push h _⟩
  all_goals exact ⟨rfl, rfl, rfl, h⟩

theorem gem_pair (c : Colors) (lines : List Str) (w w' : Int) :
    GemPair (Gemtext.renderFull c lines w).2 (Gemtext.renderFull c lines w').2 :=
  List.foldl_rel (r := GemPair) ⟨rfl, rfl, rfl, rfl⟩ fun line _ _ _ hs => gemPair_step c w w' line hs

theorem plain_replace (c : Colors) : ∀ (fuel : Nat) (s : Str) (links : List Str) (ghost : List (Nat × Str)),
    ghost = ideal links →
    (Plaintext.replaceUrls c fuel s links ghost).2.2 = ideal (Plaintext.replaceUrls c fuel s links ghost).2.1 := by
  intro fuel
  induction fuel with
  | zero => intro s links ghost h; simpa [Plaintext.replaceUrls] using h
  | succ n ih =>
    intro s links ghost h
    unfold Plaintext.replaceUrls
    split
    · exact h
    · split
      · exact ih _ _ _ (ideal_push h _)
      · exact ih _ _ _ h

theorem select_exact {α : Type} (body : List Str) (atts : List α) (k : Int) :
    Select.post body atts k =
      if h : 1 ≤ k ∧ k ≤ body.length then .body (body[(k - 1).toNat]'(by omega))
      else if h : body.length < k ∧ k ≤ body.length + atts.length then
        .attachment (atts[(k - 1).toNat - body.length]'(by omega))
      else .none := by
  rw [Select.post]
  split
  · rw [dif_neg (by omega), dif_neg (by omega)]
  split
  next l hl =>
    obtain ⟨_, rfl⟩ := List.getElem?_eq_some_iff.mp hl
    rw [dif_pos (by omega)]
  next hb =>
    have := List.getElem?_eq_none_iff.mp hb
    rw [dif_neg (by omega)]
    split
    next a ha =>
      obtain ⟨_, rfl⟩ := List.getElem?_eq_some_iff.mp ha
      rw [dif_pos (by omega)]
    next ha =>
      have := List.getElem?_eq_none_iff.mp ha
      rw [dif_neg (by omega)]

theorem body_number_selects {α : Type} (body : List Str) (atts : List α) (i : Nat) (l : Str)
    (h : body[i]? = some l) : Select.post body atts ((i : Int) + 1) = .body l := by
  obtain ⟨hi, rfl⟩ := List.getElem?_eq_some_iff.mp h
  rw [select_exact, dif_pos (by omega)]
  congr 2; omega

theorem attachment_number_selects {α : Type} (body : List Str) (atts : List α) (i : Nat) (a : α)
    (h : atts[i]? = some a) :
    Select.post body atts (Select.attachmentNumber body i) = .attachment a := by
  obtain ⟨hi, rfl⟩ := List.getElem?_eq_some_iff.mp h
  rw [select_exact, Select.attachmentNumber, dif_neg (by omega), dif_pos (by omega)]
  congr 2; omega

theorem select_out_of_range {α : Type} (body : List Str) (atts : List α) (k : Int)
    (h : k < 1 ∨ k > body.length + atts.length) : Select.post body atts k = .none := by
  rw [select_exact, dif_neg (by omega), dif_neg (by omega)]

theorem actor_eq_post (bio : List Str) (k : Int) : Select.actor bio k = Select.post bio [] k := by
  rw [Select.actor, Select.post]
  split
  · rfl
  · split <;> rfl

end C12P
