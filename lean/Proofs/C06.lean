import Proofs.WrapWidth

/-
  The linear size bound of `wrapLines` (for Props/C06.lean).
-/

namespace C06P
open Str Ansi

theorem wrap_lines_total (cells : List RawCell) (w : Int) :
    ((wrapLines cells w).map List.length).sum ≤ cells.length := by
  rw [← List.length_flatten]
  exact Nat.le_trans (WrapP.wrapLines_sublist cells w).length_le (List.length_filter_le _ _)

end C06P
