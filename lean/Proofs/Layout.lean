import Proofs.Expand
import Proofs.C16

/-
  `DumbWrap`, `Pad` and `Indent` as line-level functions.
-/

namespace LayoutP
open Str Ansi AnsiSpec

def jpre (A : List Str) : Str := (A.map (· ++ ['\n'])).flatten

theorem joinNL_snoc (A : List Str) (x : Str) : joinNL (A ++ [x]) = jpre A ++ x := by
  induction A with
  | nil => rfl
  | cons l A ih =>
    rw [List.cons_append, C16.joinNL_cons _ _ (by simp), ih]
    simp [jpre]

/-- One iteration of `DumbWrap` on the line-level state. -/
def dstep (w : Int) (st : List (List RawCell) × List RawCell) (m : RawCell) :
    List (List RawCell) × List RawCell :=
  if m.letter = '\n' then (st.1 ++ [st.2], [])
  else if (st.2.length : Int) = w then (st.1 ++ [st.2], [m])
  else (st.1, st.2 ++ [m])

def dumbLinesP (cells : List RawCell) (w : Int) : List (List RawCell) :=
  let st := cells.foldl (dstep w) ([], [])
  st.1 ++ [st.2]

def DRel (st : Str × Nat) (L : List (List RawCell) × List RawCell) : Prop :=
  st.1 = jpre (L.1.map collapse) ++ collapse L.2 ∧ st.2 = L.2.length

theorem DRel_step (w : Int) {st : Str × Nat} {L : List (List RawCell) × List RawCell} (m : RawCell)
    (h : DRel st L) : DRel (dumbWrapStep w st m) (dstep w L m) := by
  obtain ⟨h1, h2⟩ := h
  unfold dumbWrapStep dstep
  rw [h2]
  split
  · exact ⟨by simp [h1, jpre, collapse_nil], rfl⟩
  · split
    · exact ⟨by simp [h1, jpre, collapse_cons, collapse_nil], rfl⟩
    · exact ⟨by simp [h1, collapse_append, collapse_cons, collapse_nil], by simp⟩

theorem dumbWrap_refines (text : Str) (w : Int) :
    dumbWrap text w = joinNL ((dumbLinesP (expand text) w).map collapse) := by
  have h : DRel _ _ := List.foldl_rel (l := expand text) (r := DRel) (a := ([], 0)) (b := ([], []))
    ⟨rfl, rfl⟩ fun m _ _ _ h => DRel_step w m h
  rw [dumbWrap, dumbLinesP, List.map_append, List.map_cons, List.map_nil, joinNL_snoc]
  exact h.1

theorem dumbWrap_keeps_all (cells : List RawCell) (w : Int) :
    (dumbLinesP cells w).flatten = cells.filter (fun m => m.letter ≠ '\n') := by
  have : ∀ L : List (List RawCell) × List RawCell,
      (cells.foldl (dstep w) L).1.flatten ++ (cells.foldl (dstep w) L).2 =
        L.1.flatten ++ L.2 ++ cells.filter (fun m => m.letter ≠ '\n') := by
    induction cells with
    | nil => simp
    | cons m ms ih =>
      intro L
      rw [List.foldl_cons, ih]
      unfold dstep
      split
      · simp [*]
      · split <;> simp [*]
  simpa [dumbLinesP] using this ([], [])

theorem dumbWrap_width (cells : List RawCell) (w : Int) (hw : 1 ≤ w) :
    ∀ l ∈ dumbLinesP cells w, (l.length : Int) ≤ w := by
  unfold dumbLinesP
  apply List.foldlRecOn
    (motive := fun L : List (List RawCell) × List RawCell => ∀ l ∈ L.1 ++ [L.2], (l.length : Int) ≤ w)
  · simp; omega
  · intro L h m _
    have h2 := h L.2 (by simp)
    unfold dstep
    split
    · exact List.forall_mem_append.mpr ⟨h, by simp; omega⟩
    · split
      · exact List.forall_mem_append.mpr ⟨h, by simp; omega⟩
      · simp only [List.forall_mem_append, List.forall_mem_singleton] at h ⊢
        exact ⟨h.1, by simp; omega⟩

theorem pad_shape (line : List RawCell) (w : Int) :
    ∃ k : Nat, padLine line w = collapse line ++ rep ' ' k ∧
      ((line.length + k : Nat) : Int) = max (line.length : Int) w := by
  refine ⟨(w - line.length).toNat, rfl, ?_⟩
  omega

def joinNLWithP (pfx : Str) : List Str → Str
  | [] => []
  | [l] => l
  | l :: ls => l ++ '\n' :: (pfx ++ joinNLWithP pfx ls)

theorem cellLines_ne_nil (cells : List RawCell) : cellLines cells ≠ [] := by
  cases cells with
  | nil => simp [cellLines]
  | cons c cs =>
    unfold cellLines
    split
    · simp
    · split <;> simp

theorem cellLines_cons (c : RawCell) (cs : List RawCell) :
    ∃ l ls, cellLines cs = l :: ls ∧
      cellLines (c :: cs) = if c.letter = '\n' then [] :: l :: ls else (c :: l) :: ls := by
  cases h : cellLines cs with
  | nil => exact absurd h (cellLines_ne_nil cs)
  | cons l ls => exact ⟨l, ls, rfl, by simp [cellLines, h]⟩

theorem joinNLWithP_cons_append (pfx a l : Str) (ls : List Str) :
    joinNLWithP pfx ((a ++ l) :: ls) = a ++ joinNLWithP pfx (l :: ls) := by
  cases ls with
  | nil => rfl
  | cons l' ls' => simp [joinNLWithP]

theorem indent_cells (pfx : Str) (cells : List RawCell) :
    (cells.map fun m => if m.letter = '\n' then '\n' :: pfx else m.full).flatten =
      joinNLWithP pfx ((cellLines cells).map collapse) := by
  induction cells with
  | nil => rfl
  | cons c cs ih =>
    rw [List.map_cons, List.flatten_cons, ih]
    obtain ⟨l, ls, h1, h2⟩ := cellLines_cons c cs
    rw [h2, h1]
    split
    · simp [joinNLWithP, collapse_nil]
    · rw [List.map_cons, List.map_cons, collapse_cons, joinNLWithP_cons_append]

theorem indent_shape (text pfx : Str) (first : Bool) :
    indent text pfx first =
      (if first then pfx else []) ++
      joinNLWithP pfx ((cellLines (expand text)).map collapse) := by
  unfold indent
  rw [indent_cells]

end LayoutP
