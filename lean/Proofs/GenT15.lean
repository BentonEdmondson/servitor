import Model

/-
  The gemtext document with its link lines numbered by an explicit counter.
-/

namespace GenT15P
open Str Ansi Gemtext

def block (c : Colors) (w : Int) (k : Nat) : Line → Str
  | .link _ alt => Style.linkBlock c (Ansi.wrap alt (w - 2)) (k + 1) ++ ['\n']
  | .header n t => Style.header c (Ansi.wrap t (w - (n + 1))) n ++ ['\n']
  | .bullet t => Style.bullet (Ansi.wrap t (w - 2)) ++ ['\n']
  | .quote t => Style.quoteBlock c (Ansi.wrap t (w - 1)) ++ ['\n']
  | .plain t => t ++ ['\n']

def isLink : Line → Bool
  | .link _ _ => true
  | _ => false

/-- The document before the final wrap, `k` link lines having been seen, inside a preformatted
    block (`pre`, its lines so far in `buf`) or not; a block left open at the end is closed. -/
def numbered (c : Colors) (w : Int) : Nat → Bool → Str → List Str → Str
  | _, pre, buf, [] => if pre then codeBlockOf c buf w else []
  | k, pre, buf, line :: rest =>
    if hasPrefix "```".toList line then
      if pre then codeBlockOf c buf w ++ numbered c w k false [] rest
      else numbered c w k true buf rest
    else if pre then numbered c w k true (buf ++ line ++ ['\n']) rest
    else block c w k (classify line) ++
      numbered c w (if isLink (classify line) then k + 1 else k) false buf rest

/-- The same without closing a block left open at the end. -/
def body (c : Colors) (w : Int) : Nat → Bool → Str → List Str → Str
  | _, _, _, [] => []
  | k, pre, buf, line :: rest =>
    if hasPrefix "```".toList line then
      if pre then codeBlockOf c buf w ++ body c w k false [] rest
      else body c w k true buf rest
    else if pre then body c w k true (buf ++ line ++ ['\n']) rest
    else block c w k (classify line) ++
      body c w (if isLink (classify line) then k + 1 else k) false buf rest

def linkLines : Bool → List Str → List Str
  | _, [] => []
  | pre, line :: rest =>
    if hasPrefix "```".toList line then linkLines (!pre) rest
    else if pre then linkLines true rest
    else match classify line with
      | .link uri _ => uri :: linkLines false rest
      | _ => linkLines false rest

def openAfter : Bool → List Str → Bool
  | pre, [] => pre
  | pre, line :: rest => if hasPrefix "```".toList line then openAfter (!pre) rest else openAfter pre rest

def final (c : Colors) (w : Int) (s : St) : Str :=
  if s.pre then s.result ++ codeBlockOf c s.buf w else s.result

theorem step_fence_open (c : Colors) (w : Int) (s : St) (line : Str)
    (hp : hasPrefix "```".toList line = true) (hpre : s.pre = false) :
    step c w s line = { s with pre := true } := by
  simp only [step, hp, hpre, if_true, if_false, Bool.false_eq_true]

theorem step_fence_close (c : Colors) (w : Int) (s : St) (line : Str)
    (hp : hasPrefix "```".toList line = true) (hpre : s.pre = true) :
    step c w s line = { s with result := s.result ++ codeBlockOf c s.buf w, buf := [], pre := false } := by
  simp only [step, hp, hpre, if_true]

theorem step_inside (c : Colors) (w : Int) (s : St) (line : Str)
    (hp : ¬ hasPrefix "```".toList line = true) (hpre : s.pre = true) :
    step c w s line = { s with buf := s.buf ++ line ++ ['\n'] } := by
  simp only [step, hp, hpre, if_true, if_false, Bool.false_eq_true]

theorem step_outside (c : Colors) (w : Int) (s : St) (line : Str)
    (hp : ¬ hasPrefix "```".toList line = true) (hpre : s.pre = false) :
    (step c w s line).result = s.result ++ block c w s.links.length (classify line) ∧
    (step c w s line).links = s.links ++ (match classify line with | .link uri _ => [uri] | _ => []) ∧
    (step c w s line).pre = false ∧ (step c w s line).buf = s.buf := by
  simp only [step, hp, hpre, if_false, Bool.false_eq_true]
  cases classify line <;> simp [block, List.append_assoc]

theorem fold_numbered (c : Colors) (w : Int) (lines : List Str) : ∀ (s : St),
    final c w (lines.foldl (step c w) s) = s.result ++ numbered c w s.links.length s.pre s.buf lines ∧
    (lines.foldl (step c w) s).links = s.links ++ linkLines s.pre lines := by
  induction lines with
  | nil =>
    intro s
    cases h : s.pre <;> simp [numbered, linkLines, final, h]
  | cons line rest ih =>
    intro s
    rw [List.foldl_cons, (ih _).1, (ih _).2]
    by_cases hp : hasPrefix "```".toList line = true
    · cases hpre : s.pre
      · rw [step_fence_open c w s line hp hpre]
        simp only [numbered, linkLines, hp, if_true, Bool.not_false, Bool.false_eq_true, if_false, and_self]
      · rw [step_fence_close c w s line hp hpre]
        simp only [numbered, linkLines, hp, if_true, Bool.not_true, List.append_assoc, and_self]
    · cases hpre : s.pre
      · obtain ⟨h1, h2, h3, h4⟩ := step_outside c w s line hp hpre
        rw [h1, h2, h3, h4]
        simp only [numbered, linkLines, hp, if_false, Bool.false_eq_true, List.append_assoc]
        cases classify line <;> simp [isLink]
      · rw [step_inside c w s line hp hpre]
        simp only [numbered, linkLines, hp, hpre, if_true, if_false, Bool.false_eq_true, and_self]

theorem renderWithLinks_numbered (c : Colors) (lines : List Str) (w : Int) :
    Gemtext.renderWithLinks c lines w =
      (trim isNl (Ansi.wrap (numbered c w 0 false [] lines) w), linkLines false lines) := by
  have h := fold_numbered c w lines {}
  simp only [List.nil_append, List.length_nil, final] at h
  simp only [Gemtext.renderWithLinks, renderFull]
  rw [h.1, h.2]

theorem numbered_append (c : Colors) (w : Int) (before rest : List Str) : ∀ (k : Nat) (pre : Bool) (buf : Str),
    openAfter pre before = false → (pre = false → buf = []) →
    numbered c w k pre buf (before ++ rest) =
      body c w k pre buf before ++ numbered c w (k + (linkLines pre before).length) false [] rest ∧
    linkLines pre (before ++ rest) = linkLines pre before ++ linkLines false rest := by
  induction before with
  | nil =>
    intro k pre buf ho hb
    cases ho
    cases hb rfl
    exact ⟨rfl, rfl⟩
  | cons line before ih =>
    intro k pre buf ho hb
    by_cases hp : hasPrefix "```".toList line = true <;> cases pre <;>
      simp only [List.cons_append, numbered, body, linkLines, openAfter, hp, if_true, if_false, Bool.false_eq_true,
        Bool.not_true, Bool.not_false, List.append_assoc] at ho ⊢
    · exact ih k true buf ho nofun
    · rw [List.append_cancel_left_eq]
      exact ih k false [] ho (fun _ => rfl)
    · cases hb rfl
      have := ih (if isLink (classify line) then k + 1 else k) false [] ho (fun _ => rfl)
      rw [List.append_cancel_left_eq, this.1, this.2]
      cases classify line <;> simp [isLink, Nat.add_assoc, Nat.add_comm 1]
    · exact ih k true _ ho nofun

end GenT15P
