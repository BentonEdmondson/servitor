import Model

/-
  `Hook.build` on a non-empty hook, and what it does to the argument at each index.
-/

namespace Hook

theorem build_cons (prog : Str) (args : List Str) (link : Str) (mt : Mime.MediaType) :
    build (prog :: args) link mt =
      .ok { argv := prog :: args.map (substitute link mt),
            stdin := if args.contains "%url".toList then none else some link } := rfl

theorem build_ok_inv {hook : List Str} {link : Str} {mt : Mime.MediaType} {c : Cmd}
    (h : build hook link mt = .ok c) :
    ∃ prog args, hook = prog :: args ∧
      c = { argv := prog :: args.map (substitute link mt),
            stdin := if args.contains "%url".toList then none else some link } := by
  cases hook with
  | nil => cases h
  | cons prog args => exact ⟨prog, args, rfl, (Except.ok.inj h).symm⟩

theorem argv_get (prog : Str) (args : List Str) (link : Str) (mt : Mime.MediaType)
    (i : Nat) (hi : 1 ≤ i) (a : Str) (ha : (prog :: args)[i]? = some a) :
    (prog :: args.map (substitute link mt))[i]? = some (substitute link mt a) := by
  obtain ⟨j, rfl⟩ : ∃ j, i = j + 1 := ⟨i - 1, by omega⟩
  rw [List.getElem?_cons_succ] at ha ⊢
  rw [List.getElem?_map, ha]
  rfl

theorem contains_iff_index (args : List Str) (prog x : Str) :
    args.contains x = true ↔ ∃ i, 1 ≤ i ∧ (prog :: args)[i]? = some x := by
  rw [List.contains_iff_mem, List.mem_iff_getElem?]
  constructor
  · rintro ⟨j, hj⟩
    exact ⟨j + 1, Nat.le_add_left 1 j, hj⟩
  · rintro ⟨i, hi, h⟩
    obtain ⟨j, rfl⟩ : ∃ j, i = j + 1 := ⟨i - 1, by omega⟩
    exact ⟨j, h⟩

theorem substitute_of_not_placeholder (link : Str) (mt : Mime.MediaType) (a : Str)
    (h1 : a ≠ "%url".toList) (h2 : a ≠ "%mimetype".toList) (h3 : a ≠ "%subtype".toList)
    (h4 : a ≠ "%supertype".toList) : substitute link mt a = a := by
  rw [substitute, if_neg h1, if_neg h2, if_neg h3, if_neg h4]

theorem substitute_url (link : Str) (mt : Mime.MediaType) :
    substitute link mt "%url".toList = link := by
  rw [substitute, if_pos rfl]

end Hook
