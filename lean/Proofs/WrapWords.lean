import Proofs.WrapWidth

/-
  `ansi.Wrap` breaks a word only if it is longer than a line.
-/

namespace WrapP
open Str Ansi AnsiSpec

theorem words_cons_space {c : RawCell} (cs : List RawCell) (h : Uni.isSpace c.letter = true) :
    words (c :: cs) = words cs := by
  simp [words, h]

theorem words_run (cur rest : List RawCell) (hcur : ∀ x ∈ cur, Uni.isSpace x.letter = false)
    (hrest : ∀ d ∈ rest.head?, Uni.isSpace d.letter = true) :
    words (cur ++ rest) = if cur = [] then words rest else cur :: words rest := by
  induction cur with
  | nil => rfl
  | cons c cur ih =>
    have hc := hcur c (by simp)
    have ih := ih fun x hx => hcur x (by simp [hx])
    rw [List.cons_append, words, if_neg (by simp [hc]), ih]
    cases cur with
    | nil =>
      cases rest with
      | nil => rfl
      | cons d ds =>
        have hd := hrest d rfl
        rw [if_pos rfl, List.nil_append, words_cons_space ds hd]
        cases words ds <;> simp [hd]
    | cons d ds => simp [hcur d (by simp)]

/-- The word `wd` of the input is in one piece so far: an infix of a finished line or of `line`. -/
def Held (s : WrapSt) (wd : List RawCell) : Prop := ∃ l ∈ s.result ++ [s.line], wd <:+: l

theorem Held_of {s s' : WrapSt} {wd : List RawCell} (hres : ∀ l ∈ s.result, l ∈ s'.result ++ [s'.line])
    (hline : ∃ l' ∈ s'.result ++ [s'.line], s.line <+: l') (h : Held s wd) : Held s' wd := by
  obtain ⟨l, hl, hwl⟩ := h
  rcases List.mem_append.mp hl with hl | hl
  · exact ⟨l, hres l hl, hwl⟩
  · obtain ⟨l', hl', h'⟩ := hline
    exact ⟨l', hl', hwl.trans ((List.mem_singleton.mp hl) ▸ h'.isInfix)⟩

theorem Held_flush {s : WrapSt} {wd : List RawCell} (h : Held s wd) : Held (flush s) wd := by
  unfold flush
  split
  · refine Held_of (fun l hl => by simp [hl]) ⟨s.line ++ s.space ++ s.word, by simp, ?_⟩ h
    rw [List.append_assoc]
    exact List.prefix_append _ _
  · exact h

theorem Held_spStep (w : Int) {t : WrapSt} (m : RawCell) {wd : List RawCell} (h : Held t wd) :
    Held (spStep w t m) wd := by
  unfold spStep
  split
  · refine Held_of (fun l hl => by simp [hl]) ?_ h
    split
    · exact ⟨t.line ++ t.space, by simp, List.prefix_append _ _⟩
    · exact ⟨t.line, by simp, List.prefix_refl _⟩
  · exact h

theorem Held_step {w : Int} (hw : 1 ≤ w) {s : WrapSt} (m : RawCell) (hi : Inv w s)
    {wd : List RawCell} (h : Held s wd) : Held (wrapStep w s m) wd := by
  rcases wrapStep_cases hw s m with ⟨_, e⟩ | ⟨_, hf, e⟩ | ⟨_, _, _, e⟩ | ⟨_, _, _, e⟩ <;> rw [e]
  · exact Held_spStep w m (Held_flush h)
  · exact Held_of (fun l hl => by simp [hl]) ⟨[], by simp, by simp [(Inv_full_line hw hi hf).1]⟩ h
  · exact Held_of (fun l hl => by simp [hl]) ⟨s.line, by simp, List.prefix_refl _⟩ h
  · exact h

theorem Held_foldl {w : Int} (hw : 1 ≤ w) {wd : List RawCell} (cells : List RawCell)
    (s : WrapSt) (hi : Inv w s) (h : Held s wd) : Held (cells.foldl (wrapStep w) s) wd :=
  (List.foldlRecOn cells _ (motive := fun s => Inv w s ∧ Held s wd) ⟨hi, h⟩
    fun _ h m _ => ⟨Inv_step hw m h.1, Held_step hw m h.1 h.2⟩).2

theorem Held_flush_word {s : WrapSt} (hne : s.word ≠ []) : Held (flush s) s.word :=
  ⟨s.line ++ s.space ++ s.word, by simp [flush, List.length_pos_iff.mpr hne],
    (List.suffix_append _ _).isInfix⟩

/-- `Wrap` ends with one more flush; the line it gives is dropped only if empty. -/
theorem Held_final {s : WrapSt} {wd : List RawCell} (b : Bool) (h : Held (flush s) wd)
    (hne : wd ≠ []) : ∃ l ∈ finalLines s b, wd <:+: l := by
  obtain ⟨l, hl, hin⟩ := h
  rw [flush_result, ← lastLine_flush] at hl
  refine ⟨l, ?_, hin⟩
  unfold finalLines
  split
  · exact hl
  · next hp =>
    rcases List.mem_append.mp hl with hl | hl
    · exact hl
    · simp only [Bool.or_eq_true, decide_eq_true_eq, not_or, Nat.not_lt, Nat.le_zero] at hp
      rw [List.mem_singleton.mp hl, List.eq_nil_of_length_eq_zero hp.1] at hin
      exact absurd (List.infix_nil.mp hin) hne

/-- `cur` is the run of non-whitespace read last: as long as it fits a line it is the state's
    `word`. -/
theorem word_intact_from {w : Int} (hw : 1 ≤ w) (b : Bool) (cells : List RawCell) :
    ∀ (s : WrapSt) (cur : List RawCell), Inv w s → (∀ x ∈ cur, Uni.isSpace x.letter = false) →
      (cur = s.word ∨ w < (cur.length : Int)) →
      ∀ wd ∈ words (cur ++ cells), (wd.length : Int) ≤ w →
        ∃ l ∈ finalLines (cells.foldl (wrapStep w) s) b, wd <:+: l := by
  induction cells with
  | nil =>
    intro s cur _ hcur hc wd hwd hl
    rw [words_run cur [] hcur (by simp)] at hwd
    split at hwd
    · cases hwd
    · next hne =>
      obtain rfl : wd = cur := by simpa [words] using hwd
      obtain rfl := hc.resolve_right (by omega)
      exact Held_final b (Held_flush_word hne) hne
  | cons m ms ih =>
    intro s cur hi hcur hc wd hwd hl
    have hi' := Inv_step hw m hi
    cases hm : Uni.isSpace m.letter with
    | false =>
      rw [List.append_cons] at hwd
      refine ih _ _ hi' (forall_mem_snoc hcur hm) ?_ wd hwd hl
      -- a word that has reached the width is cut; from then on `cur` is too long to matter
      rcases wrapStep_cases hw s m with ⟨h, _⟩ | ⟨_, hf, e⟩ | ⟨_, _, _, e⟩ | ⟨_, _, _, e⟩
      · rw [hm] at h; cases h
      · right
        rcases hc with rfl | hc <;> simp only [List.length_append, List.length_cons, List.length_nil] <;> omega
      all_goals exact e ▸ hc.imp (fun h => by rw [h]) (fun h => by rw [List.length_append]; omega)
    | true =>
      have e := wrapStep_space w s m hm
      rw [words_run cur (m :: ms) hcur (by simpa using hm), words_cons_space ms hm] at hwd
      have hrest := fun h => ih _ [] hi' (by simp)
        (.inl (by rw [e]; unfold spStep; split <;> simp [flush_word])) wd h hl
      split at hwd
      · exact hrest hwd
      · next hne =>
        rcases List.mem_cons.mp hwd with hwc | hwd
        · -- the word just ended: the flush puts it on the current line
          subst hwc
          obtain rfl := hc.resolve_right (by omega)
          exact Held_final b
            (Held_flush (Held_foldl hw ms _ hi' (e ▸ Held_spStep w m (Held_flush_word hne)))) hne
        · exact hrest hwd

theorem wrap_word_intact (cells : List RawCell) (w : Int) (hw : 1 ≤ w) :
    ∀ wd ∈ words cells, (wd.length : Int) ≤ w → ∃ l ∈ wrapLines cells w, wd <:+: l :=
  word_intact_from hw _ cells {} [] (Inv_init w hw) (by simp) (.inl rfl)

end WrapP
