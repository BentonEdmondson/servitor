import Model

/-
  The strict request reader (`parseReq`) on a request line followed by two header lines.
-/

namespace Jtp
open Str

theorem splitCRLF_append : ∀ (a rest : Str), '\r' ∉ a →
    splitCRLF (a ++ '\r' :: '\n' :: rest) = some (a, rest)
  | [], rest, _ => rfl
  | c :: a, rest, h => by
    rw [List.cons_append, splitCRLF.eq_3 _ _ fun _ e _ => List.ne_of_not_mem_cons h e.symm,
      splitCRLF_append a rest (List.not_mem_of_not_mem_cons h)]

theorem parseReq_two_headers (l h a : Str) (hl : '\r' ∉ l) (hh : '\r' ∉ h) (ha : '\r' ∉ a)
    (nh : h ≠ []) (na : a ≠ []) :
    parseReq (l ++ '\r' :: '\n' :: (h ++ '\r' :: '\n' :: (a ++ ['\r', '\n', '\r', '\n']))) =
      some ⟨l, [h, a], []⟩ := by
  unfold parseReq
  rw [splitCRLF_append _ _ hl]
  -- the fuel is at least 3: `readHeaders` is unfolded once per header and once for the empty line
  obtain ⟨n, hn⟩ : ∃ n, (h ++ '\r' :: '\n' :: (a ++ ['\r', '\n', '\r', '\n'])).length + 1 = n + 3 :=
    ⟨h.length + a.length + 4, by simp only [List.length_append, List.length_cons, List.length_nil]; omega⟩
  dsimp only
  rw [hn]
  simp only [readHeaders, splitCRLF_append _ _ hh, splitCRLF_append _ _ ha, splitCRLF, List.isEmpty_iff, nh, na,
    if_false, if_true]

end Jtp
