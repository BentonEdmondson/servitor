import Model.Json
import Generated.GoObject

/-
  The instantiations of `getPrimitive` in the generated code, expressed through the model's
  `Obj.getAny`; `GetNumber` on one bit pattern.
-/

namespace Gen17

/-- `getPrimitive[T]`, whatever type assertion `T` stands for: absent for a missing key or `null`
    (`Obj.getAny`), wrong if the assertion fails, the asserted value otherwise. -/
theorem getPrimitive_eq {α : Type} (assert : JVal → α × Bool) (o : List (Str × JVal)) (k : Str) :
    (let (value, ok) := Go.mapLookup o k
     if ((!ok) || (Go.isNilAny value)) then .error Obj.Err.absent
     else
       let (narrowed, ok) := assert value
       if (!ok) then .error Obj.Err.wrong else .ok narrowed : Obj.R α) =
      match Obj.getAny o k with
      | .error e => .error e
      | .ok v => if (assert v).2 then .ok (assert v).1 else .error .wrong := by
  unfold Obj.getAny Go.mapLookup
  cases Obj.lookup o k with
  | none => rfl
  | some v =>
    cases v with
    | null => rfl
    | _ => dsimp only; generalize assert _ = p; obtain ⟨n, ok⟩ := p; cases ok <;> rfl

theorem str_empty : Go.str "" = [] := rfl

theorem decide_eq_nil_eq_isEmpty (v : Str) : decide (v = Go.str "") = v.isEmpty := by
  cases v <;> simp [str_empty]

/-! ### `GetNumber` on one bit pattern

  A finite double is `± m · 2^e` (`F64.dyadic`).  The Go code asks whether `math.Trunc` changes the
  number, the model whether `± m · 2^e` is an integer: `trunc_eq_self_iff` is the only place where
  the exponent ranges of the format are looked at; from there on the argument is about `m` and `e`. -/

open F64

/-- On the bit pattern `bits`, what the translated `GetNumber` does after its type assertion is
    what `Obj.getNumber` does with a number. -/
def NumCore (bits : Nat) : Prop :=
  (if Go.f64ne bits (Go.f64trunc bits) then (.error Obj.Err.wrong : Obj.R Nat)
   else if (Go.f64ltNat bits 0 || Go.f64geNat bits 18446744073709551616) then .error Obj.Err.wrong
   else .ok (Go.f64toUint64 bits)) =
  (match F64.toNat? bits with
   | some n => if n < 2 ^ 64 then .ok n else .error .wrong
   | none => .error .wrong)

/-- The patterns of `0` and `-0`: all bits but the sign clear. -/
theorem expo_mant_zero_iff (bits : Nat) : bits % 2 ^ 63 = 0 ↔ expo bits = 0 ∧ mant bits = 0 := by
  unfold expo mant
  rw [show 2 ^ 63 = 2 ^ 52 * 2048 from rfl, Nat.mod_mul, Nat.add_eq_zero_iff, Nat.mul_eq_zero,
    or_iff_right (by decide), and_comm]

theorem signed_zero_iff {bits : Nat} (h : bits < 2 ^ 64) : sign bits * 2 ^ 63 = bits ↔ bits % 2 ^ 63 = 0 := by
  unfold sign
  rw [Nat.mod_eq_of_lt (Nat.div_lt_of_lt_mul h), ← Nat.dvd_iff_mod_eq_zero, Nat.dvd_iff_div_mul_eq]

theorem finite_of_dyadic {bits : Nat} {t : Bool × Nat × Int} (hd : dyadic bits = some t) :
    expo bits ≠ 2047 :=
  fun h => by rw [dyadic, if_pos h] at hd; cases hd

theorem isNaN_finite {bits : Nat} (h : expo bits ≠ 2047) : isNaN bits = false := by
  simp [isNaN, h]

theorem isInf_finite {bits : Nat} (h : expo bits ≠ 2047) : isInf bits = false := by
  simp [isInf, h]

theorem f64ne_self {a : Nat} (h : isNaN a = false) : Go.f64ne a a = false := by
  simp [Go.f64ne, h]

/-- Different bit patterns, one of them not a zero, are different numbers (or NaNs). -/
theorem f64ne_of_ne {a b : Nat} (ha : a % 2 ^ 63 ≠ 0) (hab : a ≠ b) : Go.f64ne a b = true := by
  simp [Go.f64ne, ha, hab]

/-- The value `± m · 2^e` is an integer. -/
def Integral (m : Nat) (e : Int) : Prop := 0 ≤ e ∨ m % 2 ^ (-e).toNat = 0

theorem integral_zero (e : Int) : Integral 0 e := .inr (Nat.zero_mod _)

theorem mant_mod_two_pow (bits j : Nat) (hj : j ≤ 52) : (2 ^ 52 + F64.mant bits) % 2 ^ j = bits % 2 ^ j := by
  obtain ⟨c, hc⟩ := Nat.pow_dvd_pow 2 hj
  rw [hc, Nat.mul_add_mod, F64.mant, hc, Nat.mod_mul_right_mod]

theorem lt_two_pow {m a k : Nat} (hm : m < 2 ^ a) (hk : a ≤ k) : m < 2 ^ k :=
  Nat.lt_of_lt_of_le hm (Nat.pow_le_pow_right (by decide) hk)

theorem trunc_eq_self_iff {bits : Nat} (h : bits < 2 ^ 64) {neg : Bool} {m : Nat} {e : Int}
    (hd : dyadic bits = some (neg, m, e)) : Go.f64trunc bits = bits ↔ Integral m e := by
  have hm : mant bits < 2 ^ 52 := Nat.mod_lt _ (by decide)
  rw [dyadic, if_neg (finite_of_dyadic hd)] at hd
  unfold Integral Go.f64trunc
  dsimp only
  by_cases h0 : expo bits = 0
  · -- zeros and subnormals, `m · 2^-1074` with `m < 2^52`: an integer only if `m = 0`
    rw [if_pos h0] at hd
    cases hd
    have hj : (-(-1074 : Int)).toNat = 1074 := rfl
    rw [h0, if_neg (by decide), if_pos (by decide), hj, signed_zero_iff h, expo_mant_zero_iff,
      Nat.mod_eq_of_lt (lt_two_pow (k := 1074) hm (by decide))]
    clear h hm
    omega
  rw [if_neg h0] at hd
  cases hd
  by_cases hbig : expo bits ≥ 1075
  · -- no fraction bits
    rw [if_pos hbig]
    exact ⟨fun _ => .inl (by omega), fun _ => rfl⟩
  rw [if_neg hbig, Int.neg_sub, show ((1075 : Int) - expo bits).toNat = 1075 - expo bits from Int.toNat_sub 1075 _]
  by_cases hsmall : expo bits < 1023
  · -- below one in absolute value: 53 bits of `m` under a divisor of at least 2^53
    rw [if_pos hsmall, signed_zero_iff h, expo_mant_zero_iff, Nat.mod_eq_of_lt (a := 2 ^ 52 + mant bits)]
    · clear h hm; omega
    · exact lt_two_pow (a := 53) (by omega) (by omega)
  -- `1075 - expo` fraction bits, which are the low bits of the pattern
  rw [if_neg hsmall, mant_mod_two_pow bits _ (by omega)]
  have := Nat.mod_le bits (2 ^ (1075 - expo bits))
  clear h hm
  omega

theorem integral_of_zero {bits : Nat} {neg : Bool} {m : Nat} {e : Int}
    (hd : dyadic bits = some (neg, m, e)) (hb : bits % 2 ^ 63 = 0) : Integral m e := by
  obtain ⟨e0, m0⟩ := (expo_mant_zero_iff bits).1 hb
  rw [dyadic, e0, if_neg (by decide), if_pos rfl] at hd
  cases hd
  exact m0 ▸ integral_zero _

theorem toNat?_of_not_integral {bits : Nat} {neg : Bool} {m : Nat} {e : Int}
    (hd : dyadic bits = some (neg, m, e)) (hi : ¬ Integral m e) : toNat? bits = none := by
  unfold toNat?
  rw [hd]
  dsimp only
  rw [if_neg (fun (h : m = 0) => hi (h ▸ integral_zero e))]
  cases neg with
  | true => rfl
  | false => rw [if_neg (by decide), if_neg (fun h => hi (.inl h)), if_neg (fun h => hi (.inr h))]

theorem numCore_integral {bits : Nat} {neg : Bool} {m : Nat} {e : Int}
    (hd : dyadic bits = some (neg, m, e)) (hi : Integral m e) (ht : Go.f64trunc bits = bits) :
    NumCore bits := by
  have hf := finite_of_dyadic hd
  unfold NumCore Go.f64toUint64 Go.f64ltNat Go.f64geNat
  rw [ht, f64ne_self (isNaN_finite hf), isNaN_finite hf, isInf_finite hf]
  unfold toNat?
  rw [hd]
  dsimp only
  by_cases hm : m = 0
  · simp [hm]
  by_cases hn : neg = true
  · simp [hm, hn]
  by_cases he : e ≥ 0
  · by_cases hlt : m * 2 ^ e.toNat < 2 ^ 64 <;> simp [hm, hn, he, hlt] <;> omega
  · have hr : m % 2 ^ (-e).toNat = 0 := hi.resolve_left he
    have hdiv : m / 2 ^ (-e).toNat < 2 ^ 64 ↔ m < 2 ^ 64 * 2 ^ (-e).toNat :=
      Nat.div_lt_iff_lt_mul (Nat.pow_pos (by decide))
    by_cases hlt : m / 2 ^ (-e).toNat < 2 ^ 64 <;> simp [hm, hn, he, hr, hlt] <;> omega

/-- NaNs fail the first test of `GetNumber`, the infinities one of the two range tests. -/
theorem numCore_not_finite (bits : Nat) (hex : F64.expo bits = 2047) : NumCore bits := by
  have hd : dyadic bits = none := if_pos hex
  unfold NumCore
  rw [toNat?, hd]
  by_cases hm0 : F64.mant bits = 0
  · have hN : isNaN bits = false := by simp [isNaN, hm0]
    have hI : isInf bits = true := by simp [isInf, hex, hm0]
    have ht : Go.f64trunc bits = bits := by rw [Go.f64trunc]; exact if_pos (by omega)
    rw [ht, f64ne_self hN, Go.f64ltNat, Go.f64geNat, hN, hI]
    have hs : sign bits = 0 ∨ sign bits = 1 := Nat.mod_two_eq_zero_or_one _
    rcases hs with hs | hs <;> simp [hs]
  · have hN : isNaN bits = true := by simp [isNaN, hex, hm0]
    simp [Go.f64ne, hN]

theorem numCore (bits : Nat) (h : bits < 2 ^ 64) : NumCore bits := by
  by_cases hf : expo bits = 2047
  · exact numCore_not_finite bits hf
  cases hd : dyadic bits with
  | none => rw [dyadic, if_neg hf] at hd; split at hd <;> cases hd
  | some t =>
    obtain ⟨neg, m, e⟩ := t
    have ht := trunc_eq_self_iff h hd
    by_cases hi : Integral m e
    · exact numCore_integral hd hi (ht.2 hi)
    · unfold NumCore
      rw [f64ne_of_ne (mt (integral_of_zero hd) hi) (fun h => hi (ht.1 h.symm)),
        toNat?_of_not_integral hd hi]
      rfl

end Gen17
