import Model
import Proofs.C03

/-
  Helper lemmas for C05: truncating a response that is classified as a document.
-/

namespace Jtp
open Str
variable {Doc : Type}

theorem readLine_relocate : ∀ {s l r : Str}, readLine s = some (l, r) →
    ∀ r', readLine (l ++ r') = some (l, r')
  | [], _, _, h => by simp [readLine] at h
  | c :: cs, l, r, h => by
    intro r'
    simp only [readLine] at h
    split at h
    · rename_i hc
      simp at h; obtain ⟨rfl, rfl⟩ := h
      simp [readLine]
    · rename_i hc
      split at h
      · rename_i l' r0 heq
        simp at h; obtain ⟨rfl, rfl⟩ := h
        simp [readLine, hc, readLine_relocate heq r']
      · simp at h

theorem readLine_take_none : ∀ {s l r : Str}, readLine s = some (l, r) →
    ∀ k, k < l.length → readLine (l.take k) = none
  | [], _, _, h => by simp [readLine] at h
  | c :: cs, l, r, h => by
    intro k hk
    simp only [readLine] at h
    split at h
    · rename_i hc
      simp at h; obtain ⟨rfl, rfl⟩ := h
      have : k = 0 := by simpa using hk
      subst this; simp [readLine]
    · rename_i hc
      split at h
      · rename_i l' r0 heq
        simp at h; obtain ⟨rfl, rfl⟩ := h
        cases k with
        | zero => simp [readLine]
        | succ k =>
          have hk' : k < l'.length := by simpa using hk
          simp [readLine, hc, readLine_take_none heq k hk']
      · simp at h

theorem validateHeaders_none_of_readLine (tol : List Str) (fuel : Nat) (s : Str) (v : Bool)
    (h : readLine s = none) : validateHeaders tol fuel s v = none := by
  cases fuel <;> simp [validateHeaders, h]

/-- `hdr` is the accepted header block, the lines up to and including the blank line. -/
theorem validateHeaders_split (tol : List Str) : ∀ (fuel : Nat) (s : Str) (v : Bool) (body : Str),
    validateHeaders tol fuel s v = some body →
    ∃ hdr, s = hdr ++ body ∧
      (∀ body' fuel', (hdr ++ body').length < fuel' →
        validateHeaders tol fuel' (hdr ++ body') v = some body') ∧
      (∀ k fuel', k < hdr.length → validateHeaders tol fuel' (hdr.take k) v = none) := by
  intro fuel
  induction fuel with
  | zero => intro s v body h; simp [validateHeaders] at h
  | succ fuel ih =>
    intro s v body h
    simp only [validateHeaders] at h
    cases hrl : readLine s with
    | none => simp [hrl] at h
    | some p =>
      obtain ⟨line, rest⟩ := p
      simp only [hrl] at h
      obtain ⟨hs, hpos⟩ := readLine_spec hrl
      by_cases hb : isBlankLine line = true
      · simp only [hb, if_true] at h
        cases v <;> simp at h
        subst h
        refine ⟨line, hs, ?_, ?_⟩
        · intro body' fuel' hf
          obtain ⟨f, rfl⟩ := Nat.exists_eq_add_one.2 (Nat.zero_lt_of_lt hf)
          simp [validateHeaders, readLine_relocate hrl body', hb]
        · intro k fuel' hk
          exact validateHeaders_none_of_readLine _ _ _ _ (readLine_take_none hrl k hk)
      · simp only [hb] at h
        -- the recursive call, with the `validated` flag after this line
        have key : ∃ v', validateHeaders tol fuel rest v' = some body ∧
            ∀ f r', validateHeaders tol (f + 1) (line ++ r') v = validateHeaders tol f r' v' := by
          cases hct : parseContentType line with
          | notCT =>
            simp only [hct] at h
            exact ⟨v, h, fun f r' => by simp [validateHeaders, readLine_relocate hrl r', hb, hct]⟩
          | bad => simp [hct] at h
          | ok m =>
            simp only [hct] at h
            by_cases hm : m.matchesAny tol = true
            · simp only [hm, if_true] at h
              exact ⟨true, h, fun f r' => by
                simp [validateHeaders, readLine_relocate hrl r', hb, hct, hm]⟩
            · simp [hm] at h
        obtain ⟨v', hv', hstep⟩ := key
        obtain ⟨hdr', hs', h2, h3⟩ := ih rest v' body hv'
        refine ⟨line ++ hdr', by rw [hs, hs', List.append_assoc], ?_, ?_⟩
        · intro body' fuel' hf
          obtain ⟨f, rfl⟩ := Nat.exists_eq_add_one.2 (Nat.zero_lt_of_lt hf)
          rw [List.append_assoc, hstep]
          apply h2
          simp only [List.length_append] at hf ⊢
          omega
        · intro k fuel' hk
          by_cases hkl : k < line.length
          · rw [List.take_append_of_le_length (by omega)]
            exact validateHeaders_none_of_readLine _ _ _ _ (readLine_take_none hrl k hkl)
          · cases fuel' with
            | zero => simp [validateHeaders]
            | succ f =>
              rw [List.take_append, List.take_of_length_le (by omega), hstep]
              apply h3
              simp only [List.length_append] at hk
              omega

/-- `pre` is the status line with the header block. -/
theorem exchange_doc_split (tol : List Str) (resp body : Str) (h : exchange tol resp = .doc body) :
    ∃ pre, resp = pre ++ body ∧
      (∀ body', exchange tol (pre ++ body') = .doc body') ∧
      (∀ k, k < pre.length → exchange tol (pre.take k) = .err) := by
  obtain ⟨sl, rest, status, hrl, hst, hok, hv⟩ := (exchange_doc_iff_validateHeaders tol resp body).1 h
  obtain ⟨hdr, hs', h2, h3⟩ := validateHeaders_split tol _ rest false body hv
  obtain ⟨hs, -⟩ := readLine_spec hrl
  refine ⟨sl ++ hdr, by rw [hs, hs', List.append_assoc], fun body' => ?_, fun k hk => ?_⟩
  · rw [List.append_assoc]
    exact (exchange_doc_iff_validateHeaders tol _ body').2
      ⟨sl, _, status, readLine_relocate hrl _, hst, hok, h2 body' _ (Nat.lt_succ_self _)⟩
  · unfold exchange
    by_cases hkl : k < sl.length
    · rw [List.take_append_of_le_length (by omega), readLine_take_none hrl k hkl]
    · rw [List.take_append, List.take_of_length_le (by omega), readLine_relocate hrl]
      simp only [List.length_append] at hk
      simp [hst, okStatuses_head hok, hok, h3 (k - sl.length) _ (by omega)]

theorem sum_map_le {α : Type} (dur : α → Nat) (T : Nat) (hT : ∀ r, dur r ≤ T) :
    ∀ l : List α, (l.map dur).sum ≤ l.length * T
  | [] => by simp
  | r :: l => by
    have := sum_map_le dur T hT l
    have := hT r
    simp only [List.map_cons, List.sum_cons, List.length_cons, Nat.succ_mul]
    omega

end Jtp
