import Model.Ansi
import Model.GoText
import Generated.GoAnsih
import Proofs.Gen16
import Proofs.Layout
import Proofs.Snip
import Proofs.WrapStep
open Str Ansi

namespace Gen13P

def toM (c : RawCell) : Go.Match := ⟨c.full, c.pre, [c.letter]⟩

theorem forIn_sim {α β σ τ : Type} (φ : τ → σ) (conv : α → β)
    (f : β → σ → Except Panic (ForInStep σ)) (g : τ → α → τ) (l : List α)
    (h : ∀ a t, f (conv a) (φ t) = .ok (.yield (φ (g t a)))) (t : τ) (s0 : σ)
    (hs : s0 = φ t) : forIn (l.map conv) s0 f = .ok (φ (l.foldl g t)) := by
  subst hs
  induction l generalizing t with
  | nil => rfl
  | cons a l ih =>
    rw [List.map_cons, List.forIn_cons, h]
    exact ih _

theorem forIn_fold {α σ τ : Type} (φ : τ → σ) (f : α → σ → Except Panic (ForInStep σ)) (g : τ → α → τ)
    (l : List α) (h : ∀ a t, f a (φ t) = .ok (.yield (φ (g t a)))) (t : τ) (s0 : σ) (hs : s0 = φ t) :
    forIn l s0 f = .ok (φ (l.foldl g t)) := by
  have := forIn_sim φ id f g l h t s0 hs
  rwa [List.map_id] at this

theorem str_nl : Go.str "\n" = ['\n'] := Gen16.str_nl
theorem str_empty : Go.str "" = [] := Gen16.str_empty
theorem str_m : Go.str "m" = ['m'] := rfl
theorem str_csi : Go.str "\x1b[" = [ESC, '['] := by decide
theorem str_reset : Go.str "\x1b[0m" = reset := by decide
theorem suffix_eq : GenAnsiH.suffix_ = [' '] := rfl

theorem singleton_eq_nl (c : Char) : ([c] = ['\n']) ↔ c = '\n' := by simp

theorem forIn_pieces (p : RawCell → Str) (f : Go.Match → Str → Except Panic (ForInStep Str))
    (cells : List RawCell) (h : ∀ c r, f (toM c) r = .ok (.yield (r ++ p c))) (r0 : Str) :
    forIn (cells.map toM) r0 f = .ok (r0 ++ (cells.map p).flatten) := by
  rw [forIn_sim (fun (s : Str) => s) toM f (fun r c => r ++ p c) cells h r0 r0 rfl]
  congr 1
  clear h
  induction cells generalizing r0 with
  | nil => simp
  | cons a l ih => simp [ih]

theorem collapse_eq (cells : List RawCell) :
    GenAnsiH.collapse (cells.map toM) = .ok (collapse cells) := by
  simp only [GenAnsiH.collapse]
  rw [forIn_pieces (·.full) _ cells (fun _ _ => rfl)]
  rfl

def applyC (cells : List RawCell) (style : Str) : Str :=
  (cells.map fun m =>
    if m.letter = '\n' then ['\n']
    else ESC :: '[' :: (style ++ 'm' :: (m.pre ++ m.letter :: reset))).flatten

theorem applyC_expand (text style : Str) : applyC (expand text) style = Ansi.apply text style := rfl

theorem apply_eq (ex : Str → List Go.Match) (text style : Str) (cells : List RawCell)
    (hex : ex text = cells.map toM) :
    GenAnsiH.Apply ex text style = .ok (applyC cells style) := by
  simp only [GenAnsiH.Apply, hex]
  rw [forIn_pieces (fun m => if m.letter = '\n' then ['\n']
    else ESC :: '[' :: (style ++ 'm' :: (m.pre ++ m.letter :: reset))) _ cells ?h]
  case h =>
    intro c r
    by_cases hc : c.letter = '\n' <;> simp [toM, hc, str_nl, str_m, str_csi, str_reset, pure, Except.pure]
  rfl

def indentC (cells : List RawCell) (pfx : Str) (includeFirst : Bool) : Str :=
  (if includeFirst then pfx else []) ++
  (cells.map fun m => if m.letter = '\n' then '\n' :: pfx else m.full).flatten

theorem indentC_expand (text pfx : Str) (first : Bool) :
    indentC (expand text) pfx first = Ansi.indent text pfx first := rfl

theorem indent_eq (ex : Str → List Go.Match) (text pfx : Str) (first : Bool) (cells : List RawCell)
    (hex : ex text = cells.map toM) :
    GenAnsiH.Indent ex text pfx first = .ok (indentC cells pfx first) := by
  have hstep : ∀ (c : RawCell) (r : Str),
      (if decide ((toM c).m2 = Go.str "\n") = true then
        (pure (ForInStep.yield (r ++ (Go.str "\n" ++ pfx))) : Except Panic _)
      else pure (ForInStep.yield (r ++ (toM c).m0))) =
      .ok (.yield (r ++ (if c.letter = '\n' then '\n' :: pfx else c.full))) := by
    intro c r
    by_cases hc : c.letter = '\n' <;> simp [toM, hc, str_nl, pure, Except.pure]
  cases first <;>
    simp only [GenAnsiH.Indent, hex, if_true, if_false, Bool.false_eq_true] <;>
    rw [forIn_pieces _ _ cells hstep] <;>
    simp [indentC, bind, Except.bind, pure, Except.pure]

def padStep (n : Int) (st : Str × Int) (c : RawCell) : Str × Int :=
  if c.letter = '\n' then (st.1 ++ (rep ' ' (n - st.2).toNat ++ ['\n']), 0)
  else (st.1 ++ c.full, st.2 + 1)

theorem pad_loop (ex : Str → List Go.Match) (text : Str) (n : Int) (cells : List RawCell)
    (hex : ex text = cells.map toM) :
    GenAnsiH.Pad ex text n = .ok (
      let st := cells.foldl (padStep n) ([], 0)
      st.1 ++ rep ' ' (n - st.2).toNat) := by
  simp only [GenAnsiH.Pad, hex]
  rw [forIn_sim (fun (s : Str × Int) => s) toM _ (padStep n) cells ?h ([], 0) _ rfl]
  case h =>
    intro c st
    by_cases hc : c.letter = '\n'
    · by_cases ha : n - st.2 ≤ 0
      · have : (n - st.2).toNat = 0 := by omega
        simp [toM, hc, str_nl, pure, Except.pure, padStep, ha, this, rep]
      · simp [toM, hc, str_nl, pure, Except.pure, padStep, ha, suffix_eq,
          Gen16.repeat_nonneg ' ' (n - st.2) (by omega), bind, Except.bind]
    · simp [toM, hc, str_nl, pure, Except.pure, padStep]
  generalize cells.foldl (padStep n) ([], 0) = st
  by_cases ha : st.2 < n
  · simp [ha, suffix_eq, Gen16.repeat_nonneg ' ' (n - st.2) (by omega), bind, Except.bind, pure,
      Except.pure]
  · have : (n - st.2).toNat = 0 := by omega
    simp [ha, this, rep, bind, Except.bind, pure, Except.pure]

/-- The lines of `cells`, padded, when `k` characters of the first line have been seen already. -/
def padFrom (n k : Int) (cells : List RawCell) : Str :=
  match cellLines cells with
  | [] => []
  | l :: ls => joinNL ((collapse l ++ rep ' ' (n - (k + l.length)).toNat) :: ls.map (padLine · n))

theorem padFrom_zero (n : Int) (cells : List RawCell) :
    padFrom n 0 cells = joinNL ((cellLines cells).map (padLine · n)) := by
  unfold padFrom
  cases h : cellLines cells with
  | nil => rfl
  | cons l ls => simp [padLine]

theorem pad_fold (n : Int) (cells : List RawCell) : ∀ (r : Str) (k : Int),
    (let st := cells.foldl (padStep n) (r, k); st.1 ++ rep ' ' (n - st.2).toNat) =
      r ++ padFrom n k cells := by
  induction cells with
  | nil => intro r k; simp [padFrom, cellLines, joinNL, Ansi.collapse_nil]
  | cons c cs ih =>
    intro r k
    obtain ⟨l, ls, h1, h2⟩ := LayoutP.cellLines_cons c cs
    rw [List.foldl_cons]
    by_cases hc : c.letter = '\n'
    · have hs : padStep n (r, k) c = (r ++ (rep ' ' (n - k).toNat ++ ['\n']), 0) := by
        simp [padStep, hc]
      rw [hs, ih, padFrom_zero]
      simp [padFrom, h2, h1, hc, joinNL, Ansi.collapse_nil]
    · have hs : padStep n (r, k) c = (r ++ c.full, k + 1) := by simp [padStep, hc]
      rw [hs, ih]
      simp only [padFrom, h2, h1, hc, if_false]
      have : k + 1 + (l.length : Int) = k + ((c :: l).length : Int) := by
        simp only [List.length_cons]; omega
      rw [this]
      cases ls <;> simp [joinNL, Ansi.collapse_cons]

def dumbWrapC (cells : List RawCell) (w : Int) : Str := (cells.foldl (dumbWrapStep w) ([], 0)).1

theorem dumbWrapC_expand (text : Str) (w : Int) : dumbWrapC (expand text) w = Ansi.dumbWrap text w := rfl

theorem dumbWrap_eq (ex : Str → List Go.Match) (text : Str) (w : Int) (cells : List RawCell)
    (hex : ex text = cells.map toM) : GenAnsiH.DumbWrap ex text w = .ok (dumbWrapC cells w) := by
  simp only [GenAnsiH.DumbWrap, hex]
  rw [forIn_sim (fun (s : Str × Nat) => (s.1, (s.2 : Int))) toM _ (dumbWrapStep w) cells ?h ([], 0)
    _ ?hs]
  case hs => rfl
  case h =>
    intro c st
    by_cases hc : c.letter = '\n'
    · simp [toM, hc, str_nl, pure, Except.pure, dumbWrapStep]
    · by_cases hw : (st.2 : Int) = w <;>
        simp [toM, hc, hw, str_nl, pure, Except.pure, dumbWrapStep]
  rfl

theorem index_singleton (c : Char) : Go.index [c] 0 = .ok c := rfl

/-- The state of the translated loop that corresponds to a state of the model's loop. -/
def wrapPhi (t : WrapSt) : List Str × Str × Str × Str × Int × Int × Int :=
  (t.result.map collapse, collapse t.line, collapse t.space, collapse t.word,
    (t.line.length : Int), (t.space.length : Int), (t.word.length : Int))

def wrapC (cells : List RawCell) (n : Int) : Str := joinNL ((wrapLines cells n).map collapse)

theorem wrapC_expand (text : Str) (n : Int) : wrapC (expand text) n = Ansi.wrap text n := rfl

theorem wrap_loop (ex : Str → List Go.Match) (text : Str) (n : Int) (cells : List RawCell)
    (hex : ex text = cells.map toM) : GenAnsiH.Wrap ex text n = .ok (wrapC cells n) := by
  simp only [GenAnsiH.Wrap, hex]
  rw [forIn_sim wrapPhi toM _ (wrapStep n) cells ?h {} _ ?hs]
  case hs => rfl
  case h =>
    intro c t
    simp only [toM, index_singleton, bind, Except.bind, str_empty, str_nl, wrapPhi]
    unfold wrapStep
    by_cases h1 : Uni.isSpace c.letter = true
    · by_cases h5 : t.word.length > 0 <;> by_cases h6 : c.letter = '\n' <;>
        by_cases h7 : (t.line.length + t.space.length : Int) ≤ n <;>
        simp [h1, h5, h6, h7, WrapP.isSpace_nl, pure, Except.pure, collapse_nil, collapse_append,
          collapse_cons]
    · by_cases h2 : (t.word.length : Int) = n
      · by_cases h3 : (0 : Int) ≥ n <;>
          simp [h1, h2, h3, pure, Except.pure, collapse_nil, collapse_cons]
      · by_cases h4 : (t.line.length + t.space.length + t.word.length : Int) ≥ n <;>
          simp [h1, h2, h4, pure, Except.pure, collapse_nil, collapse_cons, collapse_append]
  simp only [bind, Except.bind, wrapPhi, wrapC, wrapLines, str_nl, str_empty, Gen16.join_nl]
  generalize cells.foldl (wrapStep n) {} = s
  clear hex
  have h4 : s.word.length > 0 → (0:Int) < ↑s.line.length + (↑s.space.length + ↑s.word.length) := by
    omega
  have h5 : s.word.length > 0 → 0 < s.line.length + (s.space.length + s.word.length) := by omega
  rcases List.eq_nil_or_concat cells with rfl | ⟨init, c, rfl⟩
  · by_cases h1 : s.word.length > 0 <;> by_cases h2 : s.line.length > 0 <;>
      simp [h1, h2, h4, h5, Go.len, pure, Except.pure, collapse_append]
  · rw [List.concat_eq_append, List.map_append, List.map_singleton, Gen16.index_last]
    by_cases h1 : s.word.length > 0 <;> by_cases h2 : s.line.length > 0 <;>
      by_cases h3 : c.letter = '\n' <;>
      simp [h1, h2, h3, h4, h5, Go.len, toM, pure, Except.pure, collapse_append]

theorem whitespace_loop
    (f : Go.Match → (Option Bool × Unit) → Except Panic (ForInStep (Option Bool × Unit)))
    (hf : ∀ c s, f (toM c) s =
      .ok (if Uni.isSpace c.letter then .yield (none, ()) else .done (some false, ()))) :
    ∀ cells : List RawCell, forIn (cells.map toM) (none, ()) f =
      .ok (if lineIsOnlyWhitespace cells then (none, ()) else (some false, ())) := by
  intro cells
  induction cells with
  | nil => rfl
  | cons c cs ih =>
    rw [List.map_cons, List.forIn_cons, hf]
    by_cases hc : Uni.isSpace c.letter = true
    · simp only [hc, if_true, bind, Except.bind]
      rw [ih]
      simp [lineIsOnlyWhitespace, hc]
    · simp [lineIsOnlyWhitespace, hc, bind, Except.bind, pure, Except.pure]

theorem lineIsOnlyWhitespace_eq (cells : List RawCell) :
    GenAnsiH.lineIsOnlyWhitespace (cells.map toM) = .ok (lineIsOnlyWhitespace cells) := by
  simp only [GenAnsiH.lineIsOnlyWhitespace]
  rw [whitespace_loop _ ?hf cells]
  case hf =>
    intro c _
    by_cases hc : Uni.isSpace c.letter = true <;>
      simp [toM, index_singleton, hc, bind, Except.bind, pure, Except.pure]
  by_cases h : lineIsOnlyWhitespace cells = true <;> simp [h, bind, Except.bind, pure, Except.pure]

/-- The regular expression as the translated code sees it: the model's scanner, each match as the
    three strings `match[0]`, `match[1]`, `match[2]`. -/
def goExpand (s : Str) : List Go.Match := (expand s).map toM

/-- One iteration of the loop of `Snip`. -/
def snipStep (w : Int) (st : List Str × Bool) (l : Str) : List Str × Bool :=
  if st.1.length = 0 then
    if lineIsOnlyWhitespace (expand l) then (st.1, true)
    else ([collapse (if ((expand l).length : Int) = w && st.2 then (expand l).dropLast else expand l)]
      ++ st.1, st.2)
  else ([collapse (expand l)] ++ st.1, st.2)

theorem snip_fold_kept (w : Int) (L : List Str) : ∀ (kept : List Str) (req : Bool), kept ≠ [] →
    L.foldl (snipStep w) (kept, req) = (L.reverse.map (fun l => collapse (expand l)) ++ kept, req) := by
  induction L with
  | nil => intro kept req _; simp
  | cons l rest ih =>
    intro kept req hk
    have hlen : ¬ kept.length = 0 := by
      intro h; exact hk (List.eq_nil_of_length_eq_zero h)
    rw [List.foldl_cons]
    have : snipStep w (kept, req) l = ([collapse (expand l)] ++ kept, req) := by
      simp [snipStep, hlen]
    rw [this, ih _ _ (by simp)]
    simp

theorem snip_fold (w : Int) (L : List Str) : ∀ req : Bool,
    L.foldl (snipStep w) ([], req) = snipLoop w L req := by
  induction L with
  | nil => intro req; rfl
  | cons l rest ih =>
    intro req
    rw [List.foldl_cons]
    by_cases hws : lineIsOnlyWhitespace (expand l) = true
    · rw [SnipP.snipLoop_ws w l rest req hws]
      have : snipStep w ([], req) l = ([], true) := by simp [snipStep, hws]
      rw [this, ih]
    · rw [SnipP.snipLoop_keep w l rest req hws]
      have : snipStep w ([], req) l = ([collapse (if ((expand l).length : Int) = w && req
          then (expand l).dropLast else expand l)], req) := by simp [snipStep, hws]
      rw [this, snip_fold_kept w rest _ _ (by simp)]

theorem countDown_succ (H : Nat) :
    Go.countDown (((H + 1 : Nat) : Int) - 1) 0 = (H : Int) :: Go.countDown ((H : Int) - 1) 0 := by
  simp [Go.countDown, List.range_succ_eq_map]
  intro k _
  omega

theorem snip_loop (w : Int) (lines : List Str)
    (f : Int → (List Str × Bool) → Except Panic (ForInStep (List Str × Bool)))
    (hf : ∀ (k : Nat) (l : Str), lines[k]? = some l → ∀ st, f k st = .ok (.yield (snipStep w st l))) :
    ∀ (H : Nat), H ≤ lines.length → ∀ st,
      forIn (Go.countDown ((H : Int) - 1) 0) st f = .ok ((lines.take H).reverse.foldl (snipStep w) st) := by
  intro H
  induction H with
  | zero => intro _ st; rfl
  | succ H ih =>
    intro hH st
    have hlt : H < lines.length := by omega
    rw [countDown_succ, List.forIn_cons, hf H lines[H] (by simp [hlt])]
    simp only [bind, Except.bind]
    rw [ih (by omega)]
    rw [List.take_succ_eq_append_getElem hlt, List.reverse_append]
    simp

/-- The body of the loop of the translated `Snip`, after `lines[i]` has been read, is `snipStep`. -/
theorem snip_body (w : Int) (l : Str) (s : List Str × Bool) :
    (if decide ((s.1.length : Int) = 0) = true then do
        let ws ← GenAnsiH.lineIsOnlyWhitespace (goExpand l)
        if ws = true then pure (ForInStep.yield (s.1, true))
        else if (decide (((goExpand l).length : Int) = w) && s.2) = true then do
          let cut ← Go.sliceTo (goExpand l) (((goExpand l).length : Int) - 1)
          let c ← GenAnsiH.collapse cut
          pure (ForInStep.yield ([c] ++ s.1, s.2))
        else do
          let c ← GenAnsiH.collapse (goExpand l)
          pure (ForInStep.yield ([c] ++ s.1, s.2))
      else do
        let c ← GenAnsiH.collapse (goExpand l)
        pure (ForInStep.yield ([c] ++ s.1, s.2)) : Except Panic (ForInStep (List Str × Bool))) =
    .ok (.yield (snipStep w s l)) := by
  simp only [bind, Except.bind, goExpand, lineIsOnlyWhitespace_eq, collapse_eq, List.length_map]
  unfold snipStep
  by_cases h0 : s.1.length = 0
  · by_cases hws : lineIsOnlyWhitespace (expand l) = true
    · simp [h0, hws, pure, Except.pure]
    · by_cases hw : ((expand l).length : Int) = w <;> cases hr : s.2 <;>
        simp [h0, hws, hw, pure, Except.pure]
      have hne : (expand l).map toM ≠ [] := fun h => hws (List.map_eq_nil_iff.mp h ▸ rfl)
      have := Gen16.sliceTo_dropLast _ hne
      simp only [Go.len, List.length_map, hw, ← List.map_dropLast] at this
      simp only [this, collapse_eq]
  · simp [h0, pure, Except.pure]

theorem snip_eq (text : Str) (w h : Int) (e : Str) :
    GenAnsiH.Snip goExpand text w h e = Ansi.snip text w h e := by
  simp only [GenAnsiH.Snip, Ansi.snip, Gen16.ofNat10, Gen16.splitChar_nl, Go.makeCap, str_nl,
    Gen16.join_nl, Go.len]
  by_cases hh : h < 0
  · simp [hh, bind, Except.bind]
  · have h0 : ¬ ((0 : Int) < 0) := by omega
    have hz : List.replicate (Int.toNat 0) (Go.zero : Str) = [] := rfl
    simp only [hh, h0, if_false, bind, Except.bind, hz]
    obtain ⟨k, rfl⟩ := Int.eq_ofNat_of_zero_le (by omega : 0 ≤ h)
    simp only [Int.toNat_natCast]
    -- all lines, or the first `k` of them and an ellipsis: the same loop either way
    by_cases hL : ((splitNL text).length : Int) ≤ (k : Int)
    all_goals
      simp only [gt_iff_lt, ← Int.not_le, hL, not_true_eq_false, not_false_eq_true, decide_true,
        decide_false, if_true, if_false, Bool.false_eq_true]
      rw [snip_loop w (splitNL text) _ ?hf _ (by omega), snip_fold]
      case hf => intro k l hl st; rw [Gen16.index_nat _ k l hl]; exact snip_body w l st
      generalize snipLoop _ _ _ = r
      rcases r with ⟨_, _ | _⟩ <;> simp [pure, Except.pure]

end Gen13P
