import Model.Style
import Generated.GoStyle
import Proofs.Gen16

/-
  For Props/Gen14.lean: the literals of style/style.go, and `Style.superscriptInt` on a natural
  number.  `bind_ok` steps a `do` block past a statement whose value is known; the other `Gen*`
  modules use it too.
-/

namespace Gen14
open Str

theorem str_diamond : Go.str "⯁" = ['⯁'] := rfl
theorem str_bar : Go.str "▌" = ['▌'] := rfl
theorem str_two_sp : Go.str "  " = [' ', ' '] := rfl
theorem str_tri : Go.str "‣ " = "‣ ".toList := rfl
theorem str_dot : Go.str "• " = "• ".toList := rfl
theorem str_bg : Go.str "48;2;" = "48;2;".toList := rfl
theorem str_fg : Go.str "38;2;" = "38;2;".toList := rfl

theorem superscriptInt_nat (n : Nat) : Style.superscriptInt (n : Int) = Style.superscript n := by
  simp [Style.superscriptInt]

theorem bind_ok {ε α β : Type} (a : α) (f : α → Except ε β) :
    (Except.ok a >>= f) = f a := rfl

end Gen14
