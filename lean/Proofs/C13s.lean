import Proofs.Clean

/-
  The width bound on the lines of the rendered *string*.

  `fits w k cs` is the cell-level reading of `linesWithin`: scanning the cells `cs` with `k`
  cells already on the current line, no line gets longer than `w`.  For well-formed cells it is
  `linesWithin w (render cs)` (`linesWithin_render`); it is inherited by prefixes and suffixes of
  the cell list, and trimming clean text removes a prefix and a suffix of (bare) cells
  (`trimLeft_cells`, `trimRight_cells`).
-/

namespace C13sP
open Str Ansi Cells AnsiSpec

theorem linesWithin_append_nl (w : Int) (a b : Str) :
    linesWithin w (a ++ '\n' :: b) = (linesWithin w a && linesWithin w b) := by
  simp only [linesWithin, C16.splitNL_append_nl, List.all_append]

theorem linesWithin_nil (w : Int) (hw : 0 ≤ w) : linesWithin w [] = true := by
  simp [linesWithin, splitNL, visLen, expand, expandF, hw]

theorem linesWithin_joinNL (w : Int) (hw : 0 ≤ w) (ls : List Str)
    (h : ∀ l ∈ ls, linesWithin w l = true) : linesWithin w (joinNL ls) = true :=
  C16.joinNL_induction (linesWithin_nil w hw)
    (fun l s hl hs => by rw [linesWithin_append_nl, hl, hs]; rfl) ls h

def fits (w : Int) : Nat → List Cell → Bool
  | k, [] => decide ((k : Int) ≤ w)
  | k, c :: cs => if c.ch = '\n' then decide ((k : Int) ≤ w) && fits w 0 cs else fits w (k + 1) cs

theorem visLen_render (cs : List Cell) (h : ∀ c ∈ cs, c.ok = true) :
    visLen (render cs) = cs.length := by
  rw [visLen, expand_render cs h, List.length_map]

theorem linesWithin_line (w : Int) (cs : List Cell) (h : ∀ c ∈ cs, c.ok = true ∧ c.ch ≠ '\n') :
    linesWithin w (render cs) = decide ((cs.length : Int) ≤ w) := by
  have hok : ∀ c ∈ cs, c.ok = true := fun c hc => (h c hc).1
  rw [linesWithin, C16.splitNL_of_no_nl _ (nl_not_mem_render_list cs hok fun c hc => (h c hc).2)]
  simp [visLen_render cs hok]

theorem linesWithin_render_aux (w : Int) (cs : List Cell) (h : ∀ c ∈ cs, c.ok = true) :
    ∀ pre : List Cell, (∀ c ∈ pre, c.ok = true ∧ c.ch ≠ '\n') →
      linesWithin w (render (pre ++ cs)) = fits w pre.length cs := by
  induction cs with
  | nil => intro pre hp; rw [List.append_nil, linesWithin_line w pre hp]; rfl
  | cons c cs ih =>
    intro pre hp
    have ih := ih fun x hx => h x (by simp [hx])
    have hc := h c (by simp)
    rw [fits]
    by_cases hnl : c.ch = '\n'
    · rw [render_append, render_cons, render_nl c hc hnl, List.singleton_append,
        linesWithin_append_nl, linesWithin_line w pre hp, if_pos hnl]
      exact congrArg _ (ih [] (by simp))
    · have := ih (pre ++ [c])
        (List.forall_mem_append.2 ⟨hp, List.forall_mem_singleton.2 ⟨hc, hnl⟩⟩)
      rw [List.append_assoc, List.length_append] at this
      rw [if_neg hnl]
      exact this

theorem linesWithin_render (w : Int) (cs : List Cell) (h : ∀ c ∈ cs, c.ok = true) :
    linesWithin w (render cs) = fits w 0 cs :=
  linesWithin_render_aux w cs h [] (by simp)

theorem fits_le (w : Int) : ∀ (cs : List Cell) (k : Nat), fits w k cs = true → (k : Int) ≤ w := by
  intro cs
  induction cs with
  | nil => intro k h; simpa [fits] using h
  | cons c cs ih =>
    intro k h
    rw [fits] at h
    split at h
    · simp only [Bool.and_eq_true, decide_eq_true_eq] at h
      exact h.1
    · have := ih (k + 1) h
      omega

theorem fits_prefix (w : Int) (b : List Cell) : ∀ (a : List Cell) (k j : Nat), j ≤ k →
    fits w k (a ++ b) = true → fits w j a = true := by
  intro a
  induction a with
  | nil =>
    intro k j hj h
    have := fits_le w _ k h
    simp only [fits, decide_eq_true_eq]
    omega
  | cons c a ih =>
    intro k j hj h
    rw [List.cons_append, fits] at h
    rw [fits]
    split
    · rename_i hn
      simp only [hn, if_true, Bool.and_eq_true, decide_eq_true_eq] at h ⊢
      exact ⟨by omega, ih 0 0 (Nat.le_refl 0) h.2⟩
    · rename_i hn
      simp only [hn, if_false] at h
      exact ih (k + 1) (j + 1) (by omega) h

theorem fits_suffix (w : Int) (b : List Cell) : ∀ (a : List Cell) (k : Nat),
    fits w k (a ++ b) = true → fits w 0 b = true := by
  intro a
  induction a with
  | nil => intro k h; exact fits_prefix w [] b k 0 (Nat.zero_le k) (by rwa [List.append_nil])
  | cons c a ih =>
    intro k h
    rw [List.cons_append, fits] at h
    split at h
    · exact ih 0 (Bool.and_eq_true _ _ ▸ h).2
    · exact ih (k + 1) h

theorem linesWithin_trim (p : Char → Bool) (hp : ∀ c, p c = true → c = ' ' ∨ c = '\n')
    (w : Int) (t : Str) (ht : Clean t) (h : linesWithin w t = true) :
    linesWithin w (trim p t) = true := by
  obtain ⟨cs, hcs, rfl⟩ := ht
  obtain ⟨cs1, ⟨a, rfl⟩, e1⟩ := trimLeft_cells p hp cs
  obtain ⟨cs2, ⟨b, rfl⟩, e2⟩ := trimRight_cells p hp cs1
  have hok := clean_ok_all hcs
  rw [linesWithin_render w _ hok] at h
  rw [trim, e1, e2, linesWithin_render w cs2 fun c hc => hok c (by simp [hc])]
  exact fits_prefix w b cs2 0 0 (Nat.le_refl 0) (fits_suffix w _ a 0 h)

theorem linesWithin_collapse (w : Int) (l : List RawCell) (h : ∀ m ∈ l, CleanRaw m)
    (hn : ∀ m ∈ l, m.letter ≠ '\n') (hl : (l.length : Int) ≤ w) :
    linesWithin w (collapse l) = true := by
  obtain ⟨cs, hcs, rfl⟩ := cleanRaw_cells l h
  rw [collapse_map_raw, linesWithin_line w cs fun c hc =>
    ⟨Cell.clean_ok (hcs c hc), hn c.raw (List.mem_map.2 ⟨c, hc, rfl⟩)⟩]
  simpa using hl

theorem linesWithin_lines (w : Int) (hw : 0 ≤ w) (L : List (List RawCell))
    (h : ∀ l ∈ L, ∀ m ∈ l, CleanRaw m) (hn : ∀ l ∈ L, ∀ m ∈ l, m.letter ≠ '\n')
    (hl : ∀ l ∈ L, (l.length : Int) ≤ w) : linesWithin w (joinNL (L.map collapse)) = true := by
  apply linesWithin_joinNL w hw
  intro x hx
  simp only [List.mem_map] at hx
  obtain ⟨l, hl', rfl⟩ := hx
  exact linesWithin_collapse w l (h l hl') (hn l hl') (hl l hl')

end C13sP
