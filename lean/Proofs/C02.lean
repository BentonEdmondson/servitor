import Model
import Proofs.C09

/-
  Provenance of the objects accepted by `FetchUnknown` and of the items the constructors of
  package `pub` build from them.  Props/C02.lean imports this file, so the predicates of its
  statements, `Sub` … `ItemOk`, are stated here once more for the lemmas to speak of;
  `C02.sub_iff` … `C02.itemOk_iff` identify the copies.  The two steps `first` and `second` that
  `fetchUnknown` is split into here are also what Props/Gen02.lean ties the translated code to.
-/

namespace C02aux
open Pub Obj

inductive Sub : JVal → JVal → Prop where
  | refl (v : JVal) : Sub v v
  | arr (v x : JVal) (xs : List JVal) : x ∈ xs → Sub v x → Sub v (.arr xs)
  | obj (v x : JVal) (k : Str) (kvs : List (Str × JVal)) : (k, x) ∈ kvs → Sub v x → Sub v (.obj kvs)

def Served (w : World) (host : Str) (o : O) : Prop :=
  ∃ url doc src, w.fetch url = some (doc, src) ∧ src.host = host ∧ Sub (.obj o) (.obj doc)

def Pre (w : World) (input : JVal) (source : Option U) : Prop :=
  ∀ s kvs, source = some s → input = .obj kvs → Served w s.host kvs

def ActorOk (w : World) (a : ActorM) : Prop := ∀ id, a.id = some id → Served w id.host a.obj

def AorFOk (w : World) : AorF → Prop
  | .actor a => ActorOk w a
  | .failure => True

def PostOk (w : World) (p : PostM) : Prop :=
  (∀ id, p.id = some id → Served w id.host p.obj) ∧
  (∀ x ∈ p.creators, AorFOk w x) ∧ (∀ x ∈ p.recipients, AorFOk w x) ∧
  (∀ po pid, p.parent = .ok (po, some pid) → Served w pid.host po)

def TargetOk (w : World) : Target → Prop
  | .post p => PostOk w p
  | .actor a => ActorOk w a
  | .failure => True

def ItemOk (w : World) : Item → Prop
  | .failure => True
  | .actor a => ActorOk w a
  | .post p => PostOk w p
  | .activity a => (∀ id, a.id = some id → Served w id.host a.obj) ∧
      (∀ ac, a.actor = .ok ac → ActorOk w ac) ∧ TargetOk w a.target
  | .collection _ => True

/-- The invariant every constructor receives for the object it builds from and hands on to the
    members it resolves. -/
def HS (w : World) (o : O) (id : Option U) : Prop := ∀ s, id = some s → Served w s.host o

theorem Sub.trans {a b c : JVal} (h1 : Sub a b) (h2 : Sub b c) : Sub a c := by
  induction h2 with
  | refl => exact h1
  | arr x xs hm _ ih => exact Sub.arr _ x xs hm ih
  | obj x k kvs hm _ ih => exact Sub.obj _ x k kvs hm ih

theorem served_sub (w : World) (host : Str) (o o' : O) (h : Served w host o)
    (hs : Sub (.obj o') (.obj o)) : Served w host o' := by
  obtain ⟨url, doc, src, hf, hh, hsub⟩ := h
  exact ⟨url, doc, src, hf, hh, Sub.trans hs hsub⟩

theorem getAny_sub {o : List (Str × JVal)} {k : Str} {v : JVal} (h : getAny o k = .ok v) :
    Sub v (.obj o) := by
  refine Sub.obj _ v k o ?_ (Sub.refl v)
  unfold getAny lookup at h
  cases hf : o.find? (fun p => p.1 = k) with
  | none => rw [hf] at h; cases h
  | some p =>
    obtain ⟨k', v'⟩ := p
    rw [hf] at h
    have hk : k' = k := by simpa using List.find?_some hf
    have hv : v' = v := by cases v' <;> cases h <;> rfl
    subst hk hv
    exact List.mem_of_find?_eq_some hf

theorem getList_sub {o : List (Str × JVal)} {k : Str} {l : List JVal} (h : getList o k = .ok l)
    {x : JVal} (hx : x ∈ l) : Sub x (.obj o) := by
  unfold getList at h
  cases hg : getAny o k with
  | error e => rw [hg] at h; cases h
  | ok v =>
    rw [hg] at h
    refine Sub.trans ?_ (getAny_sub hg)
    cases v <;> cases h <;> first
      | exact Sub.arr _ x _ hx (Sub.refl x)
      | (rw [List.mem_singleton] at hx; rw [hx]; exact Sub.refl _)

theorem pre_of_sub {w : World} {o : O} {id : Option U} (hs : HS w o id) {x : JVal}
    (hx : Sub x (.obj o)) : Pre w x id := by
  intro s kvs hid hxe
  subst hxe
  exact served_sub w _ o kvs (hs s hid) hx

def first (w : World) (input : JVal) (source : Option U) : Except Unit (O × Option U) :=
  match input with
  | .str s =>
    match w.parse s with
    | none => .error ()
    | some ref => match w.fetch (w.target source ref).str with
      | some (o, src) => .ok (o, some src)
      | none => .error ()
  | .obj kvs => .ok (kvs, source)
  | _ => .error ()

theorem first_inv {w : World} {input : JVal} {source : Option U} {o0 : O} {src0 : Option U}
    (h : first w input source = .ok (o0, src0)) :
    (∃ ref u src, input = .str ref ∧ w.parse ref = some u ∧
        w.fetch (w.target source u).str = some (o0, src) ∧ src0 = some src) ∨
    (input = .obj o0 ∧ src0 = source) := by
  unfold first at h
  split at h
  · rename_i s
    split at h
    · cases h
    · rename_i u hu
      split at h
      · rename_i o src hf
        cases h
        exact .inl ⟨s, u, src, rfl, hu, hf, rfl⟩
      · cases h
  · cases h
    exact .inr ⟨rfl, rfl⟩
  · cases h

def refetch (w : World) (id : U) : Except Unit (O × Option U) :=
  match w.fetch id.str with
  | none => .error ()
  | some (o', src') =>
    match getId w o' with
    | .error e => .error e
    | .ok none => .ok (o', none)
    | .ok (some id') => if src'.host ≠ id'.host then .error () else .ok (o', some id')

def needs (o : O) (src : Option U) (id : U) : Bool :=
  match src with
  | none => true
  | some s => s.host ≠ id.host || o.length ≤ 2

def second (w : World) (o : O) (src : Option U) : Except Unit (O × Option U) :=
  match getId w o with
  | .error e => .error e
  | .ok none => .ok (o, none)
  | .ok (some id) => if !needs o src id then .ok (o, some id) else refetch w id

theorem fetchUnknown_eq (w : World) (input : JVal) (source : Option U) :
    fetchUnknown w input source =
      match first w input source with
      | .error e => .error e
      | .ok (o, src) => second w o src := rfl

theorem fetchUnknown_split {w : World} {input : JVal} {source : Option U} {r : O × Option U}
    (h : fetchUnknown w input source = .ok r) :
    ∃ o0 src0, first w input source = .ok (o0, src0) ∧ second w o0 src0 = .ok r := by
  rw [fetchUnknown_eq] at h
  split at h
  · cases h
  · rename_i o src hf
    exact ⟨o, src, hf, h⟩

theorem refetch_inv {w : World} {id0 : U} {o : O} {oid : Option U} (h : refetch w id0 = .ok (o, oid)) :
    ∃ src', w.fetch id0.str = some (o, src') ∧
      ∀ id, oid = some id → src'.host = id.host ∧ getId w o = .ok (some id) := by
  unfold refetch at h
  split at h
  · cases h
  · rename_i o' src' hf
    split at h
    · cases h
    · cases h
      exact ⟨src', hf, nofun⟩
    · rename_i id' hid'
      split at h
      · cases h
      · rename_i hh
        cases h
        exact ⟨src', hf, fun id hid => by cases hid; exact ⟨by simpa using hh, hid'⟩⟩

theorem second_inv {w : World} {o0 : O} {src0 : Option U} {o : O} {id : U}
    (h : second w o0 src0 = .ok (o, some id)) :
    (∃ s, src0 = some s ∧ s.host = id.host ∧ o = o0 ∧ getId w o0 = .ok (some id)) ∨
    (∃ id0 src', getId w o0 = .ok (some id0) ∧ w.fetch id0.str = some (o, src') ∧
        src'.host = id.host ∧ getId w o = .ok (some id)) := by
  unfold second at h
  split at h
  · cases h
  · cases h
  · rename_i id0 hid0
    split at h
    · rename_i hr
      cases h
      cases src0 with
      | none => simp [needs] at hr
      | some s =>
        simp [needs] at hr
        exact .inl ⟨s, rfl, hr.1, rfl, hid0⟩
    · obtain ⟨src', hf, hid⟩ := refetch_inv h
      exact .inr ⟨id0, src', hid0, hf, hid id rfl⟩

theorem fetchUnknown_provenance {w : World} {input : JVal} {source : Option U} {o : O} {id : U}
    (hpre : Pre w input source) (h : fetchUnknown w input source = .ok (o, some id)) :
    Served w id.host o := by
  obtain ⟨o0, src0, hf, hs⟩ := fetchUnknown_split h
  rcases second_inv hs with ⟨s, rfl, hh, rfl, _⟩ | ⟨id0, src', _, hfe, hh, _⟩
  · rcases first_inv hf with ⟨_, u, src, _, _, hfe, hsrc⟩ | ⟨hi, hsrc⟩
    · cases hsrc
      exact ⟨_, o, s, hfe, hh, Sub.refl _⟩
    · rw [← hh]
      exact hpre s o hsrc.symm hi
  · exact ⟨id0.str, o, src', hfe, hh, Sub.refl _⟩

theorem fetchUnknown_hs {w : World} {input : JVal} {source : Option U} {o : O} {id : Option U}
    (hpre : Pre w input source) (h : fetchUnknown w input source = .ok (o, id)) : HS w o id := by
  intro s hs
  subst hs
  exact fetchUnknown_provenance hpre h

theorem foreign_embedded_refetched {w : World} {kvs : O} {s id : U} {o : O} {oid : Option U}
    (hid : getId w kvs = .ok (some id)) (hne : s.host ≠ id.host)
    (h : fetchUnknown w (.obj kvs) (some s) = .ok (o, oid)) :
    ∃ src', w.fetch id.str = some (o, src') := by
  -- the first step keeps the embedded object; the second sees a foreign host and re-fetches
  have h2 : second w kvs (some s) = .ok (o, oid) := h
  unfold second at h2
  rw [hid] at h2
  simp only [needs, hne, ne_eq, not_false_eq_true, decide_true, Bool.true_or, Bool.not_true, Bool.false_eq_true,
    if_false] at h2
  obtain ⟨src', hf, _⟩ := refetch_inv h2
  exact ⟨src', hf⟩

/-- A constructor that fetches first and builds from what comes back establishes what building
    from an object served by the host of its id establishes. -/
theorem of_fetch {α : Type} {w : World} {input : JVal} {source : Option U}
    {f : O → Option U → Except BErr α} {Ok : α → Prop}
    (hf : ∀ {o id a}, HS w o id → f o id = .ok a → Ok a) {a : α} (hpre : Pre w input source)
    (h : (match fetchUnknown w input source with
      | .error _ => Except.error BErr.other
      | .ok (o, id) => f o id) = .ok a) : Ok a := by
  split at h
  · cases h
  · rename_i o id hfu
    exact hf (fetchUnknown_hs hpre hfu) h

theorem actorId_obj {w : World} {o : O} {id : Option U} {a : ActorM}
    (h : newActorFromObject w o id = .ok a) : a.id = id ∧ a.obj = o := by
  unfold newActorFromObject at h
  split at h
  · cases h
  · cases h
  · split at h
    · cases h
    · cases h
      exact ⟨rfl, rfl⟩

theorem actorFromObject_ok {w : World} {o : O} {id : Option U} {a : ActorM} (hs : HS w o id)
    (h : newActorFromObject w o id = .ok a) : ActorOk w a := by
  unfold ActorOk
  rw [(actorId_obj h).1, (actorId_obj h).2]
  exact hs

theorem newActor_ok {w : World} {input : JVal} {source : Option U} {a : ActorM}
    (hpre : Pre w input source) (h : newActor w input source = .ok a) : ActorOk w a :=
  of_fetch actorFromObject_ok hpre h

theorem getActors_ok {w : World} {o : O} {id : Option U} (hs : HS w o id) (key : Str) :
    ∀ x ∈ getActors w o key id, AorFOk w x := by
  intro x hx
  unfold getActors at hx
  split at hx
  · cases hx
  · rw [List.mem_singleton] at hx
    rw [hx]
    trivial
  · rename_i l hl
    obtain ⟨v, hv, rfl⟩ := List.mem_map.1 hx
    split
    · rename_i a ha
      exact newActor_ok (pre_of_sub hs (getList_sub hl hv)) ha
    · trivial

theorem postFromObject_ok {w : World} {o : O} {id : Option U} {p : PostM} (hs : HS w o id)
    (h : newPostFromObject w o id = .ok p) : PostOk w p := by
  obtain ⟨hid, hobj, hcr, _, hrc, hpar⟩ := C09aux.newPostFromObject_inv h
  unfold PostOk
  rw [hid, hobj, hcr, hrc, hpar]
  refine ⟨hs, getActors_ok hs _, getActors_ok hs _, fun po pid hp => ?_⟩
  split at hp
  · cases hp
  · rename_i v hv
    split at hp
    · rename_i r hr
      cases hp
      exact fetchUnknown_provenance (pre_of_sub hs (getAny_sub hv)) hr
    · cases hp

theorem newPost_ok {w : World} {input : JVal} {source : Option U} {p : PostM}
    (hpre : Pre w input source) (h : newPost w input source = .ok p) : PostOk w p :=
  of_fetch postFromObject_ok hpre h

/-- What `getPostOrActor` makes of the reference once it is known. -/
def fetchTarget (w : World) (r : JVal) (source : Option U) : Target :=
  match fetchUnknown w r source with
  | .error _ => .failure
  | .ok (o, id) =>
    match newPostFromObject w o id with
    | .ok p => .post p
    | .error .wrongType =>
      match newActorFromObject w o id with
      | .ok a => .actor a
      | .error _ => .failure
    | .error _ => .failure

theorem fetchTarget_ok {w : World} {r : JVal} {source : Option U} (hpre : Pre w r source) :
    TargetOk w (fetchTarget w r source) := by
  unfold fetchTarget
  split
  · trivial
  · rename_i o id hf
    have hs := fetchUnknown_hs hpre hf
    split
    · rename_i p hp
      exact postFromObject_ok hs hp
    · split
      · rename_i a ha
        exact actorFromObject_ok hs ha
      · trivial
    · trivial

theorem getPostOrActor_cases (w : World) (o : O) (key : Str) (source : Option U) :
    getPostOrActor w o key source = .failure ∨
    ∃ r, Sub r (.obj o) ∧ getPostOrActor w o key source = fetchTarget w r source := by
  unfold getPostOrActor
  cases h0 : getAny o key with
  | error e => exact .inl rfl
  | ok ref0 =>
    cases ref0 with
    | obj kvs =>
      dsimp only
      cases getString kvs "type".toList with
      | error e => exact .inl rfl
      | ok kind =>
        dsimp only
        by_cases hk : kind = "Create".toList
        · rw [if_pos hk]
          cases hv : getAny kvs "object".toList with
          | error e => exact .inl rfl
          | ok v => exact .inr ⟨v, Sub.trans (getAny_sub hv) (getAny_sub h0), rfl⟩
        · rw [if_neg hk]
          exact .inr ⟨_, getAny_sub h0, rfl⟩
    | _ => exact .inr ⟨_, getAny_sub h0, rfl⟩

theorem getPostOrActor_ok {w : World} {o : O} {id : Option U} (hs : HS w o id) (key : Str) :
    TargetOk w (getPostOrActor w o key id) := by
  rcases getPostOrActor_cases w o key id with h | ⟨r, hr, h⟩ <;> rw [h]
  · trivial
  · exact fetchTarget_ok (pre_of_sub hs hr)

theorem activityFromObject_ok {w : World} {o : O} {id : Option U} {a : ActivityM} (hs : HS w o id)
    (h : newActivityFromObject w o id = .ok a) : ItemOk w (.activity a) := by
  unfold newActivityFromObject at h
  split at h
  · cases h
  · cases h
  · split at h
    · cases h
    · cases h
      refine ⟨hs, fun ac hac => ?_, getPostOrActor_ok hs _⟩
      dsimp only at hac
      split at hac
      · cases hac
      · rename_i v hv
        split at hac
        · rename_i a' ha'
          cases hac
          exact newActor_ok (pre_of_sub hs (getAny_sub hv)) ha'
        · cases hac

theorem newActivity_ok {w : World} {input : JVal} {source : Option U} {a : ActivityM}
    (hpre : Pre w input source) (h : newActivity w input source = .ok a) : ItemOk w (.activity a) :=
  of_fetch activityFromObject_ok hpre h

theorem new_provenance (w : World) (input : JVal) (source : Option U) (hpre : Pre w input source) :
    ItemOk w (new w input source) := by
  unfold new
  split
  · trivial
  · rename_i o id hf
    have hs : HS w o id := fetchUnknown_hs hpre hf
    split
    · exact actorFromObject_ok hs ‹_›
    · trivial
    · trivial
    · split
      · exact postFromObject_ok hs ‹_›
      · trivial
      · trivial
      · split
        · exact activityFromObject_ok hs ‹_›
        · trivial
        · trivial
        · split <;> trivial

theorem replyItem_provenance (w : World) (parent : Option U) (e : E) (hpre : Pre w e.1 e.2) :
    ItemOk w (replyItem w parent e) := by
  rcases C09aux.reply_kinds w parent e with h | ⟨c, h⟩ <;> rw [h]
  · trivial
  · exact newPost_ok hpre ((C09aux.reply_iff w parent e c).1 h).1

end C02aux
