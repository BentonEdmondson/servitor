import Model

/-
  What `Config.hexToAnsi` accepts and returns (through `IsHex`, `IsColor`), and what a verdict of
  `Config.postprocess` says about the decoded configuration (`Justified`): the lemmas the C19
  modules share.
-/

namespace Config

def IsHex (c : Char) : Prop :=
  ('0' ≤ c ∧ c ≤ '9') ∨ ('a' ≤ c ∧ c ≤ 'f') ∨ ('A' ≤ c ∧ c ≤ 'F')

theorem char_le_iff_toNat {a b : Char} : a ≤ b ↔ a.toNat ≤ b.toNat := by
  rw [Char.le_def, UInt32.le_iff_toNat_le]; rfl

theorem hexVal_spec (c : Char) :
    match hexVal c with
    | some v => IsHex c ∧ v ≤ 15
    | none => ¬ IsHex c := by
  unfold hexVal IsHex
  simp only [char_le_iff_toNat, Char.reduceToNat]
  by_cases h1 : 48 ≤ c.toNat ∧ c.toNat ≤ 57
  · rw [if_pos h1]; exact ⟨.inl h1, by omega⟩
  rw [if_neg h1]
  by_cases h2 : 97 ≤ c.toNat ∧ c.toNat ≤ 102
  · rw [if_pos h2]; exact ⟨.inr (.inl h2), by omega⟩
  rw [if_neg h2]
  by_cases h3 : 65 ≤ c.toNat ∧ c.toNat ≤ 70
  · rw [if_pos h3]; exact ⟨.inr (.inr h3), by omega⟩
  rw [if_neg h3]
  exact fun h => h.elim h1 (·.elim h2 h3)

theorem hexVal_some {c : Char} {v : Nat} (h : hexVal c = some v) : IsHex c ∧ v ≤ 15 := by
  have hs := hexVal_spec c
  rwa [h] at hs

theorem hexVal_of_isHex {c : Char} (h : IsHex c) : ∃ v, hexVal c = some v := by
  have hs := hexVal_spec c
  cases hv : hexVal c with
  | some v => exact ⟨v, rfl⟩
  | none => rw [hv] at hs; exact absurd h hs

theorem IsHex.toNat_lt {c : Char} (h : IsHex c) : c.toNat < 128 := by
  unfold IsHex at h
  simp only [char_le_iff_toNat, Char.reduceToNat] at h
  omega

theorem utf8Len_of_isHex {c : Char} (h : IsHex c) : utf8Len c = 1 :=
  if_pos h.toNat_lt

theorem parseHexPair_some {a b : Char} {r : Nat} (h : parseHexPair a b = some r) :
    ∃ x y, hexVal a = some x ∧ hexVal b = some y ∧ r = 16 * x + y := by
  unfold parseHexPair at h
  split at h
  · next x y hx hy => exact ⟨x, y, hx, hy, (Option.some.inj h).symm⟩
  · cases h

theorem parseHexPair_of_isHex {a b : Char} (ha : IsHex a) (hb : IsHex b) :
    ∃ r, parseHexPair a b = some r := by
  obtain ⟨x, hx⟩ := hexVal_of_isHex ha
  obtain ⟨y, hy⟩ := hexVal_of_isHex hb
  exact ⟨16 * x + y, by simp [parseHexPair, hx, hy]⟩

theorem parseHexPair_isHex {a b : Char} {v : Nat} (h : parseHexPair a b = some v) :
    IsHex a ∧ IsHex b := by
  obtain ⟨x, y, hx, hy, -⟩ := parseHexPair_some h
  exact ⟨(hexVal_some hx).1, (hexVal_some hy).1⟩

theorem parseHexPair_le {a b : Char} {v : Nat} (h : parseHexPair a b = some v) : v ≤ 255 := by
  obtain ⟨x, y, hx, hy, rfl⟩ := parseHexPair_some h
  have := (hexVal_some hx).2
  have := (hexVal_some hy).2
  omega

def IsColor (s : Str) : Prop :=
  ∃ r g b : Nat, r ≤ 255 ∧ g ≤ 255 ∧ b ≤ 255 ∧
    s = Style.itoa r ++ ';' :: Style.itoa g ++ ';' :: Style.itoa b

theorem hexToAnsi_some_inv {text out : Str} (h : hexToAnsi text = some out) :
    ∃ a b c d e f r g bl, text = ['#', a, b, c, d, e, f] ∧
      parseHexPair a b = some r ∧ parseHexPair c d = some g ∧ parseHexPair e f = some bl ∧
      out = Style.itoa r ++ ';' :: Style.itoa g ++ ';' :: Style.itoa bl := by
  unfold hexToAnsi at h
  split at h
  · split at h
    · cases h
    · split at h
      · split at h
        · rename_i a b c d e f _ _ _ _ r g bl hr hg hb
          exact ⟨a, b, c, d, e, f, r, g, bl, rfl, hr, hg, hb, (Option.some.inj h).symm⟩
        · cases h
      · cases h
  · cases h

theorem hexToAnsi_of_hex {a b c d e f : Char}
    (ha : IsHex a) (hb : IsHex b) (hc : IsHex c) (hd : IsHex d) (he : IsHex e) (hf : IsHex f) :
    (hexToAnsi ['#', a, b, c, d, e, f]).isSome := by
  have hlen : byteLen ['#', a, b, c, d, e, f] = 7 := by
    have hsharp : utf8Len '#' = 1 := by decide
    simp [byteLen, utf8Len_of_isHex, *]
  obtain ⟨r, hr⟩ := parseHexPair_of_isHex ha hb
  obtain ⟨g, hg⟩ := parseHexPair_of_isHex hc hd
  obtain ⟨bl, hbl⟩ := parseHexPair_of_isHex he hf
  simp [hexToAnsi, hlen, hr, hg, hbl]

theorem hexToAnsi_isColor {text out : Str} (h : hexToAnsi text = some out) : IsColor out := by
  obtain ⟨a, b, c, d, e, f, r, g, bl, -, hr, hg, hb, rfl⟩ := hexToAnsi_some_inv h
  exact ⟨r, g, bl, parseHexPair_le hr, parseHexPair_le hg, parseHexPair_le hb, rfl⟩

theorem itoa_isDigit (n : Nat) : ∀ c ∈ Style.itoa n, c.isDigit = true := by
  intro c hc
  exact Nat.isDigit_of_mem_toDigits (by decide) (by decide) hc

theorem wrap64_seconds {t : Int} (h0 : 0 ≤ t) (h1 : t ≤ maxSeconds) :
    wrap64 (t * 1000000000) = t * 1000000000 := by
  unfold wrap64
  unfold maxSeconds at h1
  omega

/-- What a verdict of `postprocess` on `r` has to satisfy: a diagnostic names a key whose value is
    indeed invalid; an accepted configuration passed every check and carries the values given. -/
def Justified (r : Raw) : Except Diag Parsed → Prop
  | .error .primary => hexToAnsi r.primary = none
  | .error .error => hexToAnsi r.error = none
  | .error .highlight => hexToAnsi r.highlight = none
  | .error .code => hexToAnsi r.code = none
  | .error .hook => r.hook = []
  | .error .context => r.context < 0 ∨ r.context > maxPreload
  | .error .timeout => r.timeout < 0 ∨ r.timeout > maxSeconds
  | .error .cacheSize => r.cacheSize < 1
  | .ok p =>
    ∃ cp ce ch cc, hexToAnsi r.primary = some cp ∧ hexToAnsi r.error = some ce ∧
      hexToAnsi r.highlight = some ch ∧ hexToAnsi r.code = some cc ∧
      r.hook ≠ [] ∧ 0 ≤ r.context ∧ 0 ≤ r.timeout ∧ 1 ≤ r.cacheSize ∧ r.timeout ≤ maxSeconds ∧
      r.context ≤ maxPreload ∧
      p = { hook := r.hook, colors := ⟨cp, ce, ch, cc⟩, context := r.context,
            timeoutSeconds := r.timeout, cacheSize := r.cacheSize,
            timeoutNanos := wrap64 (r.timeout * 1000000000) }

/-- The one walk along the checks of `postprocess`, in their order. -/
theorem postprocess_justified {r : Raw} {v : Except Diag Parsed} (h : postprocess r = v) :
    Justified r v := by
  subst h
  unfold postprocess
  cases h1 : hexToAnsi r.primary with
  | none => exact h1
  | some cp =>
  cases h2 : hexToAnsi r.error with
  | none => exact h2
  | some ce =>
  cases h3 : hexToAnsi r.highlight with
  | none => exact h3
  | some ch =>
  cases h4 : hexToAnsi r.code with
  | none => exact h4
  | some cc =>
  dsimp only
  by_cases c1 : r.hook.isEmpty = true
  · rw [if_pos c1]; exact List.isEmpty_iff.1 c1
  rw [if_neg c1]
  by_cases c2 : r.context < 0
  · rw [if_pos c2]; exact .inl c2
  rw [if_neg c2]
  by_cases c3 : r.context > maxPreload
  · rw [if_pos c3]; exact .inr c3
  rw [if_neg c3]
  by_cases c4 : r.timeout < 0
  · rw [if_pos c4]; exact .inl c4
  rw [if_neg c4]
  by_cases c5 : r.cacheSize < 1
  · rw [if_pos c5]; exact c5
  rw [if_neg c5]
  by_cases c6 : r.timeout > maxSeconds
  · rw [if_pos c6]; exact .inr c6
  rw [if_neg c6]
  exact ⟨cp, ce, ch, cc, h1, h2, h3, h4, mt List.isEmpty_iff.2 c1, Int.not_lt.1 c2, Int.not_lt.1 c4,
    Int.not_lt.1 c5, Int.not_lt.1 c6, Int.not_lt.1 c3, rfl⟩

theorem postprocess_safe {r : Raw} {p : Parsed} (h : postprocess r = .ok p) : Safe p := by
  obtain ⟨cp, ce, ch, cc, hp, he, hh, hc, hhook, h1, h2, h3, h4, h5, rfl⟩ := postprocess_justified h
  refine ⟨hhook, h3, h1, h2, h5, wrap64_seconds h2 h4, ?_⟩
  intro s hs
  simp only [List.mem_cons, List.not_mem_nil, or_false] at hs
  rcases hs with rfl | rfl | rfl | rfl
  · exact hexToAnsi_isColor hp
  · exact hexToAnsi_isColor he
  · exact hexToAnsi_isColor hh
  · exact hexToAnsi_isColor hc

end Config
