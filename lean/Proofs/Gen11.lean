import Model.Splicer
import Model.GoSlices
import Generated.GoSplicer
import Proofs.C11
import Proofs.Gen14

/-
  For `Props/Gen11.lean`: a model splicer as the translated code sees it (`Gen11.lift`); then the
  Go semantics of `Model/GoSlices.lean` on lists of a known shape (`a ++ x :: b` at index
  `a.length`) and the loops of the translated splicer, each with its body as a hypothesis.
-/

namespace Gen11
open Splicer
variable {C T : Type}

/-- A model source as the translated code sees it: every element is a non-nil interface value. -/
def liftSrc (x : Source C T) : GenSplicer.Source C T :=
  { basepoint := x.basepoint, page := x.page, elements := x.elements.map some }

def lift (s : List (Source C T)) : GenSplicer.Splicer C T := s.map liftSrc

/-- A model harvest function as the translated code sees it: it never delivers nil. -/
def liftHv (hv : Hv C T) : GenSplicer.HarvestFn C T :=
  fun c n b => ((hv c n b).1.map some, (hv c n b).2.1, (hv c n b).2.2)

/-- One goroutine of the translated `replenish`, on any source (nil elements included). -/
def gstep (hv : GenSplicer.HarvestFn C T) (amount : Int) (x : GenSplicer.Source C T) : GenSplicer.Source C T :=
  match x.page with
  | some p =>
    if Go.len x.elements < amount then
      let r := hv p (Go.toUint (amount - Go.len x.elements)) x.basepoint
      { basepoint := r.2.2, page := r.2.1, elements := x.elements ++ r.1 }
    else x
  | none => x

end Gen11

namespace Gen11P
open Splicer Gen11 C11P

variable {C T : Type}

theorem index_mid {α : Type} (a : List α) (x : α) (b : List α) :
    Go.index (a ++ x :: b) (a.length : Int) = .ok x :=
  Gen16.index_nat _ _ _ (by simp)

theorem modify_mid_list {α : Type} (a : List α) (x : α) (b : List α) (f : α → α) :
    (a ++ x :: b).modify a.length f = a ++ f x :: b := by
  induction a with
  | nil => simp
  | cons y a ih => simp [ih]

theorem modify_mid {α : Type} (a : List α) (x : α) (b : List α) (f : α → α) :
    Go.modify (a ++ x :: b) (a.length : Int) f = .ok (a ++ f x :: b) := by
  have h : ¬ ((a.length : Int) < 0 ∨ (a.length : Int) ≥ ((a ++ x :: b).length : Nat)) := by
    simp only [List.length_append, List.length_cons]; omega
  simp only [Go.modify, h, if_false, Int.toNat_natCast, modify_mid_list]

theorem split_at {α : Type} (xs : List α) (k : Nat) (x : α) (h : xs[k]? = some x) :
    ∃ a b, xs = a ++ x :: b ∧ a.length = k := by
  obtain ⟨hk, rfl⟩ := List.getElem?_eq_some_iff.mp h
  exact ⟨xs.take k, xs.drop (k + 1), by rw [List.getElem_cons_drop, List.take_append_drop],
    List.length_take_of_le (Nat.le_of_lt hk)⟩

theorem toUint_sub (a b : Nat) (hb : b ≤ a) (ha : a < 2 ^ 64) :
    Go.toUint ((a : Int) - (b : Int)) = a - b := by
  rw [← Int.ofNat_sub hb, Gen16.toUint_natCast _ (by omega)]

theorem uadd_small (a b : Nat) (h : a + b < 2 ^ 64) : Go.uadd a b = a + b := Nat.mod_eq_of_lt h

theorem indices_eq {α : Type} (xs : List α) :
    Go.indices xs = (List.range' 0 xs.length).map fun (k : Nat) => (k : Int) := by
  simp [Go.indices, List.range_eq_range']

theorem countUp_length (n : Nat) : (Go.countUp 0 (n : Int)).length = n := by
  simp [Go.countUp]

theorem copy_self {α : Type} (xs : List α) : Go.copy xs xs = xs := by
  simp [Go.copy]

theorem copy_fresh {α : Type} (z : α) (xs : List α) : Go.copy (List.replicate xs.length z) xs = xs := by
  simp [Go.copy]

theorem lift_append (a b : List (Source C T)) : lift (a ++ b) = lift a ++ lift b := by
  simp [lift]

theorem lift_cons (x : Source C T) (b : List (Source C T)) : lift (x :: b) = liftSrc x :: lift b := rfl

theorem lift_length (a : List (Source C T)) : (lift a).length = a.length := by simp [lift]

def rstep (hv : Hv C T) (amount : Nat) (src : Source C T) : Source C T :=
  match src.page with
  | some p =>
    if src.elements.length < amount then
      let r := hv p (amount - src.elements.length) src.basepoint
      { basepoint := r.2.2, page := r.2.1, elements := src.elements ++ r.1 }
    else src
  | none => src

theorem replenish_map (hv : Hv C T) (n : Nat) (s : List (Source C T)) :
    Splicer.replenish hv n s = s.map (rstep hv n) := rfl

/-- A `for i := range xs` loop whose body rewrites cell `i` alone, by `g`, maps `g` over `xs`.
    The body is looked at only in the states the loop reaches: the cells before `i` rewritten,
    the others as they are in `xs`. -/
theorem state_loop {σ : Type} (xs : List σ) (f : Int → List σ → Except Panic (ForInStep (List σ))) (g : σ → σ)
    (hf : ∀ a x b, xs = a ++ x :: b →
      f ((a.map g).length : Int) (a.map g ++ x :: b) = .ok (.yield (a.map g ++ g x :: b))) :
    forIn (Go.indices xs) xs f = .ok (xs.map g) := by
  suffices ∀ done rest, xs = done ++ rest →
      forIn ((List.range' (done.map g).length rest.length).map fun (k : Nat) => (k : Int)) (done.map g ++ rest) f
        = .ok (done.map g ++ rest.map g) by
    rw [indices_eq]; exact this [] xs rfl
  intro done rest h
  induction rest generalizing done with
  | nil => rfl
  | cons x rest ih =>
    have := ih (done ++ [x]) (h.trans (List.append_cons ..))
    simp only [List.map_append, List.length_append, List.append_assoc] at this
    simp only [List.length_cons, List.range'_succ, List.map_cons, List.forIn_cons]
    rw [hf done x rest h]
    exact this

theorem gstep_lift (hv : Hv C T) (n : Nat) (hn : n < 2 ^ 64) (src : Source C T) :
    gstep (liftHv hv) (n : Int) (liftSrc src) = liftSrc (rstep hv n src) := by
  rcases src with ⟨bp, _ | p, els⟩
  · rfl
  · simp only [gstep, rstep, liftSrc, Go.len, List.length_map, Int.ofNat_lt]
    by_cases hl : els.length < n
    · simp only [if_pos hl, toUint_sub n els.length (Nat.le_of_lt hl) hn, liftHv, List.map_append]
    · simp only [if_neg hl]

/-- The scan state of the translated `microharvest` for a model state. -/
def enc : Option (Nat × T) → Option T × Int
  | none => (none, 0)
  | some (j, b) => (some b, (j : Int))

theorem scan_loop (ts : T → Int) (s : List (Source C T))
    (f : Int → Option T × Int → Except Panic (ForInStep (Option T × Int)))
    (hf : ∀ (a : List (Source C T)) (x : Source C T) (b : List (Source C T)) (best : Option (Nat × T)),
      s = a ++ x :: b → f (a.length : Int) (enc best) = .ok (.yield (enc (pstep ts x.elements.head? a.length best)))) :
    forIn (Go.indices (lift s)) (none, 0) f = .ok (enc (pick ts s 0 none)) := by
  suffices ∀ done rest best, s = done ++ rest →
      forIn ((List.range' done.length rest.length).map fun (k : Nat) => (k : Int)) (enc best) f
        = .ok (enc (pick ts rest done.length best)) by
    rw [indices_eq, lift_length]; exact this [] s none rfl
  intro done rest best h
  induction rest generalizing done best with
  | nil => rfl
  | cons x rest ih =>
    have := ih (done ++ [x]) (pstep ts x.elements.head? done.length best) (h.trans (List.append_cons ..))
    rw [List.length_append] at this
    simp only [List.length_cons, List.range'_succ, List.map_cons, List.forIn_cons]
    rw [hf done x rest best h, pick_cons]
    exact this

theorem skip_loop (ts : T → Int)
    (f : Int → GenSplicer.Splicer C T → Except Panic (ForInStep (GenSplicer.Splicer C T)))
    (hf : ∀ i (s : List (Source C T)), f i (lift s) = .ok (.yield (lift (Splicer.microharvest ts s).2)))
    (L : List Int) (s : List (Source C T)) :
    forIn L (lift s) f = .ok (lift (skip ts L.length s)) := by
  induction L generalizing s with
  | nil => rfl
  | cons i L ih =>
    rw [List.forIn_cons, hf, List.length_cons, skip]
    exact ih _

/-- What `Harvest` returns. -/
abbrev Result (C T : Type) := List (Option T) × Option (GenSplicer.Splicer C T) × Nat

/-- The state of the second loop of `Harvest`: the result of an early `return`, if one was
    executed, then `clone` and `output`. -/
abbrev LoopSt (C T : Type) := Option (Result C T) × GenSplicer.Splicer C T × List (Option T)

/-- What the second loop of `Harvest` and the statements after it compute from the loop state. -/
def fin (st : LoopSt C T) : Result C T :=
  match st.1 with
  | some r => r
  | none => (st.2.2, some st.2.1, 0)

/-- The second loop of `Harvest` with the statements after it, `k`: only what `k` makes of the
    final state is said, since the `clone` left behind by an early `return` is of no interest. -/
theorem take_loop (ts : T → Int)
    (f : Int → LoopSt C T → Except Panic (ForInStep (LoopSt C T)))
    (hf : ∀ i (s : List (Source C T)) out, f i (none, lift s, out) = .ok
      (match Splicer.microharvest ts s with
       | (none, s') => .done (some (out, none, 0), lift s', out)
       | (some e, s') => .yield (none, lift s', out ++ [some e])))
    (L : List Int) (s : List (Source C T)) (out : List (Option T))
    (k : LoopSt C T → Except Panic (Result C T)) (hk : ∀ st, k st = .ok (fin st)) :
    forIn L (none, lift s, out) f >>= k
      = .ok (out ++ (take ts L.length s).1.map some, (take ts L.length s).2.map lift, 0) := by
  induction L generalizing s out with
  | nil => rw [List.forIn_nil, pure_bind, hk]; simp [take, fin]
  | cons i L ih =>
    rw [List.forIn_cons, hf, Gen14.bind_ok, List.length_cons, take]
    rcases Splicer.microharvest ts s with ⟨_ | e, s'⟩
    · rw [pure_bind, hk]; simp [fin]
    · dsimp only; rw [ih]; simp

end Gen11P
