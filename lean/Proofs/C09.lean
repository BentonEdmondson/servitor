import Model

namespace C09aux
open Pub

theorem outbox_iff (w : World) (owner : Option U) (e : E) (act : ActivityM) :
    outboxItem w owner e = .activity act ↔
      (newActivity w e.1 e.2 = .ok act ∧
        ∃ oid aid, owner = some oid ∧ act.actorId = some aid ∧ aid.str = oid.str) := by
  constructor
  · intro h
    unfold outboxItem at h
    split at h
    · cases h
    · rename_i act' ha
      split at h
      · cases h
      · rename_i oid
        split at h
        · cases h
        · rename_i aid haid
          split at h
          · rename_i hs
            cases h
            exact ⟨ha, oid, aid, rfl, haid, hs⟩
          · cases h
  · rintro ⟨h, oid, aid, rfl, ha, hs⟩
    simp [outboxItem, h, ha, hs]

theorem outbox_kinds (w : World) (owner : Option U) (e : E) :
    outboxItem w owner e = .failure ∨ ∃ act, outboxItem w owner e = .activity act := by
  unfold outboxItem
  split
  · exact .inl rfl
  · split
    · exact .inl rfl
    · split
      · exact .inl rfl
      · split
        · exact .inr ⟨_, rfl⟩
        · exact .inl rfl

theorem outbox_genuine (w : World) (owner : Option U) (e : E) :
    (∀ act, outboxItem w owner e = .activity act →
        newActivity w e.1 e.2 = .ok act ∧
        ∃ oid aid, owner = some oid ∧ act.actorId = some aid ∧ aid.str = oid.str) ∧
    ((¬ ∃ act, newActivity w e.1 e.2 = .ok act ∧
        ∃ oid aid, owner = some oid ∧ act.actorId = some aid ∧ aid.str = oid.str) →
      outboxItem w owner e = .failure) ∧
    (∀ act oid aid, newActivity w e.1 e.2 = .ok act → owner = some oid → act.actorId = some aid →
        aid.str = oid.str → outboxItem w owner e = .activity act) := by
  refine ⟨fun act h => (outbox_iff w owner e act).1 h, ?_, ?_⟩
  · intro hn
    rcases outbox_kinds w owner e with h | ⟨act, h⟩
    · exact h
    · exact absurd ⟨act, (outbox_iff w owner e act).1 h⟩ hn
  · intro act oid aid h1 h2 h3 h4
    exact (outbox_iff w owner e act).2 ⟨h1, oid, aid, h2, h3, h4⟩

theorem reply_iff (w : World) (parent : Option U) (e : E) (c : PostM) :
    replyItem w parent e = .post c ↔
      (newPost w e.1 e.2 = .ok c ∧
        ∃ pid cid, parent = some pid ∧ c.parentId = some cid ∧ cid.str = pid.str) := by
  constructor
  · intro h
    unfold replyItem at h
    split at h
    · cases h
    · rename_i c' hc
      split at h
      · cases h
      · rename_i pid
        split at h
        · cases h
        · rename_i cid hcid
          split at h
          · rename_i hs
            cases h
            exact ⟨hc, pid, cid, rfl, hcid, hs⟩
          · cases h
  · rintro ⟨h, pid, cid, rfl, ha, hs⟩
    simp [replyItem, h, ha, hs]

theorem reply_kinds (w : World) (parent : Option U) (e : E) :
    replyItem w parent e = .failure ∨ ∃ c, replyItem w parent e = .post c := by
  unfold replyItem
  split
  · exact .inl rfl
  · split
    · exact .inl rfl
    · split
      · exact .inl rfl
      · split
        · exact .inr ⟨_, rfl⟩
        · exact .inl rfl

theorem reply_genuine (w : World) (parent : Option U) (e : E) :
    (∀ c, replyItem w parent e = .post c →
        newPost w e.1 e.2 = .ok c ∧ ∃ pid cid, parent = some pid ∧ c.parentId = some cid ∧ cid.str = pid.str) ∧
    ((¬ ∃ c, newPost w e.1 e.2 = .ok c ∧ ∃ pid cid, parent = some pid ∧ c.parentId = some cid ∧ cid.str = pid.str) →
      replyItem w parent e = .failure) ∧
    (∀ c pid cid, newPost w e.1 e.2 = .ok c → parent = some pid → c.parentId = some cid →
        cid.str = pid.str → replyItem w parent e = .post c) := by
  refine ⟨fun c h => (reply_iff w parent e c).1 h, ?_, ?_⟩
  · intro hn
    rcases reply_kinds w parent e with h | ⟨c, h⟩
    · exact h
    · exact absurd ⟨c, (reply_iff w parent e c).1 h⟩ hn
  · intro c pid cid h1 h2 h3 h4
    exact (reply_iff w parent e c).2 ⟨h1, pid, cid, h2, h3, h4⟩

theorem creatorOk_actor {id : Option U} {a : ActorM} :
    creatorOk id (.actor a) = true ↔
      (a.id = none ∧ id = none) ∨ (∃ ai pi, a.id = some ai ∧ id = some pi ∧ ai.host = pi.host) := by
  unfold creatorOk
  cases h : a.id <;> cases id <;> simp [h]

theorem newPostFromObject_inv {w : World} {o : O} {id : Option U} {p : PostM}
    (h : newPostFromObject w o id = .ok p) :
    p.id = id ∧ p.obj = o ∧ p.creators = getActors w o "attributedTo".toList id ∧
    p.creators.all (creatorOk id) = true ∧ p.recipients = getActors w o "audience".toList id ∧
    p.parent = (match Obj.getAny o "inReplyTo".toList with
      | .error e => .error e
      | .ok v => match fetchUnknown w v id with
        | .ok r => .ok r
        | .error _ => .error .wrong) := by
  unfold newPostFromObject at h
  split at h
  · cases h
  · cases h
  · split at h
    · cases h
    · split at h
      · cases h
      · dsimp only at h
        split at h
        · rename_i hall
          cases h
          exact ⟨rfl, rfl, rfl, hall, rfl, rfl⟩
        · cases h

theorem post_authors_same_host (w : World) (o : O) (id : Option U) (p : PostM)
    (h : newPostFromObject w o id = .ok p) :
    p.id = id ∧ ∀ a, AorF.actor a ∈ p.creators →
      (a.id = none ∧ id = none) ∨ (∃ ai pi, a.id = some ai ∧ id = some pi ∧ ai.host = pi.host) := by
  obtain ⟨hid, _, _, hall, _⟩ := newPostFromObject_inv h
  exact ⟨hid, fun a ha => creatorOk_actor.1 (List.all_eq_true.1 hall _ ha)⟩

theorem parents_bounded (w : World) (q : Nat) (p : PostM) :
    (parents w q p).1.length ≤ q := by
  induction q generalizing p with
  | zero =>
    unfold parents
    split <;> simp
  | succ q ih =>
    unfold parents
    split
    · simp
    · simp
    · split
      · simp
      · rename_i parent _
        split
        · simp
        · have := ih parent
          simp only [List.length_cons]
          omega

end C09aux
