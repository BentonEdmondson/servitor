import Model
import Proofs.Expand
import Proofs.WrapStep
import Proofs.WrapWidth
import Proofs.WrapContent
import Proofs.WrapBreaks
import Proofs.WrapWords
import Proofs.Layout
import Proofs.Snip

/-
  The modules on `ansi.Wrap`, `DumbWrap`, `Pad`, `Indent` and `Snip`, under one name.
-/
