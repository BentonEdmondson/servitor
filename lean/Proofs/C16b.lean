import Proofs.Expand

/-
  `ansi.Apply` introduces no newline.  The cells `expand` returns only carry characters of the
  input (no assumption on the input), so styling a newline-free text with a newline-free
  parameter string gives a newline-free text.
-/

namespace C16b
open Str Ansi

theorem apply_no_newline (text style : Str) (ht : '\n' ∉ text) (hs : '\n' ∉ style) :
    '\n' ∉ apply text style := by
  unfold apply
  intro h
  obtain ⟨l, hl, hx⟩ := List.mem_flatten.mp h
  obtain ⟨m, hm, rfl⟩ := List.mem_map.mp hl
  have hsub := mem_of_mem_expand hm
  have h1 : m.letter ≠ '\n' := fun h => ht (hsub _ (by simp [h]))
  have h2 : '\n' ∉ m.pre := fun h => ht (hsub _ (by simp [h]))
  rw [if_neg h1] at hx
  simp [reset, Str.ESC, hs, h2, Ne.symm h1] at hx

end C16b
