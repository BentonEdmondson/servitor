import Model

/-
  History: a history with a current page is a zipper laid out in a list (`lay`), and on that form
  each operation is the zipper's.  Feed: positions inside a sequence are written `lo + 1 + i` with
  `i` an index into `items`, which turns every lookup into a list lookup.
-/

namespace C18
open History Feed

section History
variable {α : Type}

theorem inv_empty : History.Inv ({} : History.H α) := .inl ⟨rfl, rfl⟩

def lay (pre : List α) (c : α) (fwd : List α) : History.H α := ⟨pre ++ c :: fwd, pre.length⟩

theorem abs_lay (pre : List α) (c : α) (fwd : List α) :
    History.abs (lay pre c fwd) = ⟨pre.reverse, some c, fwd⟩ := by
  simp [History.abs, lay]

theorem lay_lt (pre : List α) (c : α) (fwd : List α) :
    (lay pre c fwd).index < (lay pre c fwd).elements.length := by
  simp [lay]

theorem exists_lay (h : History.H α) (hlt : h.index < h.elements.length) :
    ∃ pre c fwd, h = lay pre c fwd := by
  refine ⟨h.elements.take h.index, h.elements[h.index], h.elements.drop (h.index + 1), ?_⟩
  obtain ⟨els, i⟩ := h
  simp only [lay, List.length_take, Nat.min_eq_left (Nat.le_of_lt hlt)]
  rw [List.getElem_cons_drop, List.take_append_drop]

theorem add_lay (pre : List α) (c : α) (fwd : List α) (x : α) :
    History.add (lay pre c fwd) x = .ok (lay (pre ++ [c]) x []) := by
  simp [History.add, lay, List.take_length_add_append]

theorem step_lay (pre : List α) (c : α) (fwd : List α) (o : History.Op α) :
    ∃ pre' c' fwd', History.step (lay pre c fwd) o = .ok (lay pre' c' fwd') ∧
      (⟨pre.reverse, some c, fwd⟩ : History.Zipper α).step o = ⟨pre'.reverse, some c', fwd'⟩ := by
  cases o with
  | add x =>
    exact ⟨pre ++ [c], x, [], add_lay pre c fwd x, by simp [History.Zipper.step]⟩
  | back =>
    rcases List.eq_nil_or_concat pre with rfl | ⟨p, b, rfl⟩
    · exact ⟨[], c, fwd, rfl, rfl⟩
    · exact ⟨p, b, c :: fwd, by simp [History.step, History.back, lay], by simp [History.Zipper.step]⟩
  | forward =>
    cases fwd with
    | nil => exact ⟨pre, c, [], by simp [History.step, History.forward, lay], rfl⟩
    | cons f fs =>
      exact ⟨pre ++ [c], f, fs, by simp [History.step, History.forward, lay], by simp [History.Zipper.step]⟩

theorem step_ok (h : History.H α) (o : History.Op α) (hi : History.Inv h) :
    ∃ h', History.step h o = .ok h' ∧ History.Inv h' ∧
      (h.elements ≠ [] ∨ (∃ x, o = .add x) → h'.elements ≠ []) ∧
      History.abs h' = (History.abs h).step o := by
  rcases hi with ⟨he, h0⟩ | hlt
  · obtain ⟨els, i⟩ := h
    subst he h0
    cases o with
    | add x => exact ⟨lay [] x [], rfl, .inr (lay_lt _ _ _), fun _ => List.cons_ne_nil _ _, rfl⟩
    | back => exact ⟨_, rfl, .inl ⟨rfl, rfl⟩, by simp, rfl⟩
    | forward => exact ⟨_, rfl, .inl ⟨rfl, rfl⟩, by simp, rfl⟩
  · obtain ⟨pre, c, fwd, rfl⟩ := exists_lay h hlt
    obtain ⟨pre', c', fwd', hs, hz⟩ := step_lay pre c fwd o
    refine ⟨_, hs, .inr (lay_lt _ _ _), fun _ => by simp [lay], ?_⟩
    rw [abs_lay, abs_lay, hz]

theorem run_ok (ops : List (History.Op α)) (h : History.H α) (hi : History.Inv h) :
    ∃ h', History.run h ops = .ok h' ∧ History.Inv h' ∧
      (h.elements ≠ [] ∨ (∃ x, History.Op.add x ∈ ops) → h'.elements ≠ []) ∧
      History.abs h' = History.Zipper.run (History.abs h) ops := by
  induction ops generalizing h with
  | nil =>
    refine ⟨h, rfl, hi, ?_, rfl⟩
    rintro (hne | ⟨x, hx⟩)
    · exact hne
    · simp at hx
  | cons o os ih =>
    obtain ⟨h1, hs, hi1, hne1, ha1⟩ := step_ok h o hi
    obtain ⟨h2, hr, hi2, hne2, ha2⟩ := ih h1 hi1
    refine ⟨h2, ?_, hi2, ?_, ?_⟩
    · simp only [History.run, hs, hr]
    · rintro (hne | ⟨x, hx⟩)
      · exact hne2 (Or.inl (hne1 (Or.inl hne)))
      · rcases List.mem_cons.mp hx with heq | hmem
        · exact hne2 (Or.inl (hne1 (Or.inr ⟨x, heq.symm⟩)))
        · exact hne2 (Or.inr ⟨x, hmem⟩)
    · rw [ha2, ha1]
      simp [History.Zipper.run]

theorem current_eq (h : History.H α) (hi : h.index < h.elements.length) :
    History.current h = .ok h.elements[h.index] := by
  simp [History.current, List.getElem?_eq_getElem hi]

theorem current_ok (h : History.H α) (hi : History.Inv h) (hne : h.elements ≠ []) :
    ∃ x, History.current h = .ok x :=
  hi.elim (fun he => absurd he.1 hne) fun hlt => ⟨_, current_eq h hlt⟩

end History

section Feed
variable {α : Type}

theorem inside_iff (s : Feed.Seq2 α) (p : Int) :
    s.inside p = true ↔ s.lo < p ∧ p ≤ s.lo + s.items.length := by
  simp [Feed.Seq2.inside]

theorem at_of_inside (s : Feed.Seq2 α) (p : Int) (h : s.inside p = true) :
    s.at p = s.items[(p - s.lo - 1).toNat]? := by
  simp [Feed.Seq2.at, h]

theorem exists_of_inside (s : Feed.Seq2 α) (p : Int) (h : s.inside p = true) :
    ∃ i : Nat, i < s.items.length ∧ p = s.lo + 1 + i := by
  have := (inside_iff s p).mp h
  exact ⟨(p - s.lo - 1).toNat, by omega, by omega⟩

/-- Also beyond the last item, where both sides are `none`. -/
theorem at_lo_add (s : Feed.Seq2 α) (i : Nat) : s.at (s.lo + 1 + i) = s.items[i]? := by
  have e : (s.lo + 1 + i - s.lo - 1).toNat = i := by omega
  unfold Feed.Seq2.at
  split
  · rw [e]
  · rename_i h
    rw [inside_iff] at h
    exact (List.getElem?_eq_none (by omega)).symm

theorem at_extend (s s' : Feed.Seq2 α) (pre post : List α) (hlo : s'.lo = s.lo - pre.length)
    (hit : s'.items = pre ++ s.items ++ post) (p : Int) (hp : s.inside p = true) : s'.at p = s.at p := by
  obtain ⟨i, hi, rfl⟩ := exists_of_inside s p hp
  have e : s.lo + 1 + (i : Int) = s'.lo + 1 + ((pre.length + i : Nat) : Int) := by omega
  rw [at_lo_add, e, at_lo_add, hit, List.append_assoc, List.getElem?_append_right (Nat.le_add_right _ _),
    Nat.add_sub_cancel_left, List.getElem?_append_left hi]

theorem contains_iff (f : Feed.F α) (off : Int) :
    Feed.contains f off = true ↔ f.index + off < f.upper ∧ f.index + off > f.lower := by
  simp [Feed.contains]

def Rep {α : Type} (f : Feed.F α) (s : Feed.Seq2 α) : Prop :=
  f.lower = s.lo ∧ f.upper = s.lo + s.items.length + 1 ∧ f.index = s.cursor ∧
  ∀ p : Int, s.inside p = true → f.feed p = s.at p

theorem Rep.feed_lo_add {f : Feed.F α} {s : Feed.Seq2 α} (h : Rep f s) (i : Nat) (hi : i < s.items.length) :
    f.feed (s.lo + 1 + i) = s.items[i]? := by
  rw [← at_lo_add]
  exact h.2.2.2 _ ((inside_iff s _).mpr (by omega))

theorem rep_mk (f : Feed.F α) (lo : Int) (items : List α) (c : Int) (hl : f.lower = lo)
    (hu : f.upper = lo + items.length + 1) (hx : f.index = c)
    (hf : ∀ i : Nat, i < items.length → f.feed (lo + 1 + i) = items[i]?) : Rep f ⟨lo, items, c⟩ := by
  refine ⟨hl, hu, hx, fun p hp => ?_⟩
  obtain ⟨i, hi, rfl⟩ := exists_of_inside _ p hp
  rw [at_lo_add]
  exact hf i hi

theorem rep_append (f : Feed.F α) (s : Feed.Seq2 α) (xs : List α) (h : Rep f s) :
    Rep (Feed.step f (.append xs)) (s.step (.append xs)) := by
  have hu := h.2.1
  refine rep_mk (Feed.append f xs) s.lo (s.items ++ xs) s.cursor h.1 ?_ h.2.2.1 fun i hi => ?_
  · show f.upper + xs.length = _
    rw [List.length_append]; omega
  · show (if f.upper ≤ s.lo + 1 + i ∧ s.lo + 1 + i < f.upper + xs.length then _ else _) = _
    rw [List.length_append] at hi
    by_cases hc : i < s.items.length
    · rw [if_neg (by omega), List.getElem?_append_left hc, h.feed_lo_add i hc]
    · rw [if_pos (by omega), List.getElem?_append_right (by omega)]
      congr 1; omega

theorem rep_prepend (f : Feed.F α) (s : Feed.Seq2 α) (xs : List α) (h : Rep f s) :
    Rep (Feed.step f (.prepend xs)) (s.step (.prepend xs)) := by
  have hl := h.1
  have hu := h.2.1
  refine rep_mk (Feed.prepend f xs) (s.lo - xs.length) (xs.reverse ++ s.items) s.cursor ?_ ?_ h.2.2.1
    fun i hi => ?_
  · rw [← hl]; rfl
  · show f.upper = _
    rw [List.length_append, List.length_reverse]; omega
  · show (if f.lower - xs.length < s.lo - xs.length + 1 + i ∧ s.lo - xs.length + 1 + i ≤ f.lower
      then _ else _) = _
    rw [List.length_append, List.length_reverse] at hi
    by_cases hc : i < xs.length
    · rw [if_pos (by omega), List.getElem?_append_left (by rw [List.length_reverse]; exact hc),
        List.getElem?_reverse hc]
      congr 1; omega
    · have e : s.lo - xs.length + 1 + (i : Int) = s.lo + 1 + ((i - xs.length : Nat) : Int) := by omega
      rw [if_neg (by omega), List.getElem?_append_right (by rw [List.length_reverse]; omega),
        List.length_reverse, e]
      exact h.feed_lo_add _ (by omega)

theorem contains_eq_inside (f : Feed.F α) (s : Feed.Seq2 α) (h : Rep f s) (off : Int) :
    Feed.contains f off = s.inside (s.cursor + off) := by
  obtain ⟨hl, hu, hx, -⟩ := h
  rw [Bool.eq_iff_iff, contains_iff, inside_iff]
  omega

theorem rep_move (f : Feed.F α) (s : Feed.Seq2 α) (h : Rep f s) (off qf qs : Int)
    (hqf : qf = f.index + off) (hqs : qs = s.cursor + off) :
    Rep (if Feed.contains f off then { f with index := qf } else f)
      (if s.inside qs then { s with cursor := qs } else s) := by
  rw [contains_eq_inside f s h off, ← hqs]
  obtain ⟨hl, hu, hx, hf⟩ := h
  split
  · exact ⟨hl, hu, by rw [hqf, hqs, hx], hf⟩
  · exact ⟨hl, hu, hx, hf⟩

end Feed

end C18
