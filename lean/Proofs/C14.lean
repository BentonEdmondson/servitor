import Proofs.Cells

namespace C14P
open Str Ansi Cells

theorem apply_step (t : Str) (cs : List Cell) (a : Str) (ha : sgrOk a = true)
    (h : t = render cs ∧ ∀ x ∈ cs, x.ok = true) :
    apply t a = render (cs.map (addAttr a)) ∧ ∀ x ∈ cs.map (addAttr a), x.ok = true :=
  ⟨h.1 ▸ apply_render cs h.2 a, List.forall_mem_map.2 fun y hy => addAttr_ok y a (h.2 y hy) ha⟩

end C14P
