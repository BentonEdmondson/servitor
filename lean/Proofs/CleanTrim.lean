import Proofs.CleanBasic

/-
  Trimming takes characters off one end while they are spaces or newlines.  A cell's rendering
  begins with such a character only if it is that bare character and nothing else (`render_head`:
  otherwise it begins with `ESC`), and likewise ends with one (`render_last`: otherwise it ends
  with the `m` of the reset), so trimming a rendering removes whole cells.
-/

namespace Cells
open Str Ansi

theorem snoc_induction {α : Type} {P : List α → Prop} (nil : P [])
    (snoc : ∀ l a, P l → P (l ++ [a])) (l : List α) : P l := by
  rw [← l.reverse_reverse]
  induction l.reverse with
  | nil => exact nil
  | cons a l ih => rw [List.reverse_cons]; exact snoc _ _ ih

theorem trimRight_snoc (p : Char → Bool) (s : Str) (ch : Char) :
    trimRight p (s ++ [ch]) = if p ch = true then trimRight p s else s ++ [ch] := by
  rw [trimRight, List.reverse_append, List.reverse_singleton, List.singleton_append,
    List.dropWhile_cons, apply_ite List.reverse, List.reverse_cons, List.reverse_reverse]
  rfl

theorem trimLeft_cells (p : Char → Bool) (hp : ∀ c, p c = true → c = ' ' ∨ c = '\n')
    (cs : List Cell) : ∃ cs', cs' <:+ cs ∧ trimLeft p (render cs) = render cs' := by
  induction cs with
  | nil => exact ⟨[], List.suffix_refl _, rfl⟩
  | cons c cs ih =>
    obtain ⟨x, t, e, ht⟩ := render_head c
    by_cases hpx : p x = true
    · obtain rfl : t = [] := ht (by rcases hp x hpx with rfl | rfl <;> decide)
      obtain ⟨cs', h1, h2⟩ := ih
      refine ⟨cs', h1.trans (List.suffix_cons _ _), ?_⟩
      rw [render_cons, e]
      exact (List.dropWhile_cons_of_pos hpx).trans h2
    · refine ⟨c :: cs, List.suffix_refl _, ?_⟩
      rw [render_cons, e]
      exact List.dropWhile_cons_of_neg hpx

theorem trimRight_cells (p : Char → Bool) (hp : ∀ c, p c = true → c = ' ' ∨ c = '\n')
    (cs : List Cell) : ∃ cs', cs' <+: cs ∧ trimRight p (render cs) = render cs' := by
  induction cs using snoc_induction with
  | nil => exact ⟨[], List.prefix_refl _, rfl⟩
  | snoc cs c ih =>
    obtain ⟨t, x, e, ht⟩ := render_last c
    by_cases hpx : p x = true
    · obtain rfl : t = [] := ht (by rcases hp x hpx with rfl | rfl <;> decide)
      obtain ⟨cs', h1, h2⟩ := ih
      refine ⟨cs', h1.trans (List.prefix_append _ _), ?_⟩
      rw [render_snoc, e, List.nil_append, trimRight_snoc, if_pos hpx, h2]
    · refine ⟨cs ++ [c], List.prefix_refl _, ?_⟩
      rw [render_snoc, e, ← List.append_assoc, trimRight_snoc, if_neg hpx]

theorem clean_trimLeft (p : Char → Bool) (hp : ∀ c, p c = true → c = ' ' ∨ c = '\n') (s : Str)
    (h : Clean s) : Clean (trimLeft p s) := by
  obtain ⟨cs, hcs, rfl⟩ := h
  obtain ⟨cs', hs, e⟩ := trimLeft_cells p hp cs
  exact ⟨cs', fun c hc => hcs c (hs.subset hc), e⟩

theorem clean_trimRight (p : Char → Bool) (hp : ∀ c, p c = true → c = ' ' ∨ c = '\n') (s : Str)
    (h : Clean s) : Clean (trimRight p s) := by
  obtain ⟨cs, hcs, rfl⟩ := h
  obtain ⟨cs', hs, e⟩ := trimRight_cells p hp cs
  exact ⟨cs', fun c hc => hcs c (hs.subset hc), e⟩

theorem clean_trim (p : Char → Bool) (hp : ∀ c, p c = true → c = ' ' ∨ c = '\n') (s : Str)
    (h : Clean s) : Clean (trim p s) :=
  clean_trimRight p hp _ (clean_trimLeft p hp s h)

theorem isSpNl_spec : ∀ c, isSpNl c = true → c = ' ' ∨ c = '\n' := by
  intro c h
  simpa [isSpNl] using h

theorem isNl_spec : ∀ c, isNl c = true → c = ' ' ∨ c = '\n' := by
  intro c h
  right
  simpa [isNl] using h

theorem trimSuffix_snoc (x ch : Char) (s : Str) :
    trimSuffix [x] (s ++ [ch]) = if x = ch then s else s ++ [ch] := by
  rw [trimSuffix]
  simp only [List.isSuffixOf_iff_suffix, List.singleton_suffix_append_singleton_iff,
    List.length_append, List.length_singleton, Nat.add_sub_cancel, List.take_left']

theorem clean_trimSuffix_nl (s : Str) (h : Clean s) : Clean (trimSuffix ['\n'] s) := by
  obtain ⟨cs, hcs, rfl⟩ := h
  induction cs using snoc_induction with
  | nil => exact clean_nil
  | snoc cs c _ =>
    obtain ⟨t, x, e, ht⟩ := render_last c
    by_cases hn : x = '\n'
    · obtain rfl : t = [] := ht (by rw [hn]; decide)
      rw [render_snoc, e, hn, List.nil_append, trimSuffix_snoc, if_pos rfl]
      exact clean_cells cs fun x hx => hcs x (by simp [hx])
    · rw [render_snoc, e, ← List.append_assoc, trimSuffix_snoc, if_neg (Ne.symm hn),
        List.append_assoc, ← e, ← render_snoc]
      exact clean_cells _ hcs

end Cells
