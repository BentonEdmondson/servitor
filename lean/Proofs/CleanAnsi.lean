import Proofs.CleanTrim
import Proofs.C13
import Proofs.C16

/-
  Clean text is closed under the layout functions of the ansi layer.
-/

namespace Cells
open Str Ansi

theorem clean_wrap (s : Str) (w : Int) (h : Clean s) : Clean (wrap s w) :=
  clean_joinNL _ <| List.forall_mem_map.2 fun x hx =>
    clean_collapse x fun m hm => clean_expand s h m (WrapP.wrapLines_subset _ w x hx m hm).1

theorem dumbLines_mem (cells : List RawCell) (w : Int) :
    ∀ l ∈ LayoutP.dumbLinesP cells w, ∀ m ∈ l, m ∈ cells ∧ m.letter ≠ '\n' := by
  intro l hl m hm
  have h : m ∈ (LayoutP.dumbLinesP cells w).flatten := List.mem_flatten.2 ⟨l, hl, hm⟩
  rw [LayoutP.dumbWrap_keeps_all] at h
  simpa using List.mem_filter.1 h

theorem clean_dumbWrap (s : Str) (w : Int) (h : Clean s) : Clean (dumbWrap s w) := by
  rw [LayoutP.dumbWrap_refines]
  exact clean_joinNL _ <| List.forall_mem_map.2 fun x hx =>
    clean_collapse x fun m hm => clean_expand s h m (dumbLines_mem _ w x hx m hm).1

theorem cellLines_all {P : RawCell → Prop} (cells : List RawCell) (hc : ∀ m ∈ cells, P m) :
    ∀ l ∈ cellLines cells, ∀ m ∈ l, P m := by
  induction cells with
  | nil =>
    intro l hl
    rw [List.mem_singleton.1 hl]
    exact fun _ hm => nomatch hm
  | cons c cs ih =>
    have hc := List.forall_mem_cons.1 hc
    obtain ⟨l0, ls, h1, h2⟩ := LayoutP.cellLines_cons c cs
    have ih := ih hc.2
    rw [h1] at ih
    rw [h2]
    split
    · exact List.forall_mem_cons.2 ⟨fun _ hm => (nomatch hm), ih⟩
    · have ih := List.forall_mem_cons.1 ih
      exact List.forall_mem_cons.2 ⟨List.forall_mem_cons.2 ⟨hc.1, ih.1⟩, ih.2⟩

theorem clean_pad (s : Str) (w : Int) (h : Clean s) : Clean (pad s w) :=
  clean_joinNL _ <| List.forall_mem_map.2 fun x hx =>
    clean_append _ _ (clean_collapse x (cellLines_all _ (clean_expand s h) x hx))
      (clean_plain _ (noCtl_rep ' ' _ (by decide)))

theorem clean_snipLoop (w : Int) (L : List Str) (req : Bool) (hL : ∀ l ∈ L, Clean l) :
    ∀ x ∈ (snipLoop w L req).1, Clean x := by
  rcases SnipP.snipLoop_shape w L req with h0 | ⟨a, l, b, r, h1, _, h2⟩
  · simp [h0]
  · rw [h2]
    refine List.forall_mem_append.2
      ⟨fun x hx => hL x (by simp [h1, List.mem_reverse.1 hx]), List.forall_mem_singleton.2 ?_⟩
    apply clean_collapse
    have hl := clean_expand l (hL l (by simp [h1]))
    split
    · exact fun m hm => hl m ((List.dropLast_sublist _).subset hm)
    · exact hl

theorem clean_snip (s : Str) (w h : Int) (e out : Str) (hs : Clean s) (he : Clean e)
    (ho : snip s w h e = .ok out) : Clean out := by
  unfold snip at ho
  split at ho
  · cases ho
  · simp only [Except.ok.injEq] at ho
    subst ho
    apply clean_append
    · apply clean_joinNL
      apply clean_snipLoop
      intro l hl
      exact clean_splitNL s hs l (List.mem_of_mem_take (List.mem_reverse.1 hl))
    · exact clean_if _ he clean_nil

theorem clean_prefix_nl {a b : Str} (h : Clean (a ++ '\n' :: b)) : Clean a := by
  rw [← C16.joinNL_splitNL a]
  exact clean_joinNL _ fun l hl =>
    clean_splitNL _ h l (by rw [C16.splitNL_append_nl]; exact List.mem_append_left _ hl)

theorem noCtl_squash (t : Str) (h : Safe.noCtl t = true) : Safe.noCtl (squash t) = true := by
  rw [noCtl_iff] at h ⊢
  intro c hc
  obtain ⟨x, hx, rfl⟩ := List.mem_map.1 hc
  split
  · exact Or.inr (by decide)
  · exact h x hx

end Cells
