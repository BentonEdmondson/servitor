import Proofs.WrapContent

/-
  `ansi.Wrap` never removes a line break between two visible characters: what `Keeps` says about
  `gaps`.
-/

namespace WrapP
open Str Ansi AnsiSpec

theorem visible_cons (m : RawCell) (l : List RawCell) :
    visible (m :: l) = if Uni.isSpace m.letter then visible l else (m.pre, m.letter) :: visible l := by
  cases h : Uni.isSpace m.letter <;> simp [visible, h]

/-- Inserting whitespace between visible characters never lowers a gap.
    `st`: a visible character was seen, `c`: the breaks since; before the first one `c` is never emitted, so it need not be compared. -/
theorem gapsAux_mono {a b : List RawCell} (h : a.Sublist b) : visible a = visible b →
    ∀ (st : Bool) (c c' : Nat), (st = true → c ≤ c') →
      leAll (gapsAux a st c) (gapsAux b st c') = true := by
  induction h with
  | slnil => intros; rfl
  | @cons a b t h ih =>
    intro hv st c c' hc
    rw [visible_cons] at hv
    split at hv
    · next ht =>
      simp only [gapsAux, ht, if_true]
      split
      · exact ih hv st c _ fun h => by rw [if_pos h]; exact Nat.le_succ_of_le (hc h)
      · exact ih hv st c c' hc
    · -- `t` is visible: `b` shows more than `a`
      have hlen : (visible a).length ≤ (visible b).length := ((h.filter _).map _).length_le
      rw [hv, List.length_cons] at hlen
      omega
  | @cons_cons a b t h ih =>
    intro hv st c c' hc
    rw [visible_cons, visible_cons] at hv
    simp only [gapsAux]
    by_cases hn : t.letter = '\n'
    · rw [hn, isSpace_nl] at hv
      rw [if_pos hn, if_pos hn]
      exact ih hv st _ _ fun h => by rw [if_pos h, if_pos h]; exact Nat.succ_le_succ (hc h)
    · rw [if_neg hn, if_neg hn]
      split at hv
      · next ht => rw [if_pos ht, if_pos ht]; exact ih hv st c c' hc
      · next ht =>
        have ih := ih (List.cons.inj hv).2 true 0 0 fun _ => Nat.le_refl _
        rw [if_neg ht, if_neg ht]
        cases st
        · exact ih
        · simpa [leAll, ih] using hc

theorem visible_skel (x : List RawCell) : visible (skel x) = visible x := by
  induction x with
  | nil => rfl
  | cons m ms ih =>
    rw [skel, List.flatMap_cons, ← skel, visible_append, ih, visible_cons]
    split
    · next h => simp [h, isSpace_nl, visible, nlC]
    · split <;> simp [visible, *]

theorem gapsAux_skel (x : List RawCell) :
    ∀ (b : Bool) (c : Nat), gapsAux (skel x) b c = gapsAux x b c := by
  induction x with
  | nil => intro b c; rfl
  | cons m ms ih =>
    intro b c
    rw [skel, List.flatMap_cons, ← skel]
    by_cases h1 : m.letter = '\n'
    · simp [gapsAux, h1, nlC, ih]
    · by_cases h2 : Uni.isSpace m.letter = true <;> simp [gapsAux, h1, h2, ih]

theorem Keeps_gaps {x y : List RawCell} (h : Keeps x y) : leAll (gaps x) (gaps y) = true := by
  rw [gaps, gaps, ← gapsAux_skel x, ← gapsAux_skel y]
  exact gapsAux_mono h.1 (by rw [visible_skel, visible_skel, h.2]) false 0 0 (by simp)

theorem gapsAux_trailing {y : List RawCell} (h : ∀ m ∈ y, Uni.isSpace m.letter = true) :
    ∀ (x : List RawCell) (b : Bool) (c : Nat), gapsAux (x ++ y) b c = gapsAux x b c
  | m :: ms, b, c => by simp only [List.cons_append, gapsAux, gapsAux_trailing h ms]
  | [], b, c => by
    induction y generalizing c with
    | nil => rfl
    | cons m ms ih =>
      simp only [List.nil_append, gapsAux, h m (by simp), if_true] at ih ⊢
      split <;> exact ih (fun x hx => h x (by simp [hx])) _

theorem wrap_keeps_breaks (cells : List RawCell) (w : Int) (hw : 1 ≤ w) :
    leAll (gaps cells) (gaps (relinesP (wrapLines cells w))) = true := by
  obtain ⟨t, ht, hk⟩ := wrap_keeps cells w hw
  have := Keeps_gaps hk
  rwa [gaps, gaps, gapsAux_trailing ht] at this

end WrapP
