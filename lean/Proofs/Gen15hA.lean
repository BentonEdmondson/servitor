import Model

/- What `trimRight`, `takeWhile` and `dropWhile` cut a text into: the facts behind the answers of the
   two trim patterns of hypertext.go (`Gen15hP.trimRightMatch`, `Gen15hP.trimLeftMatch`). -/

open Str
namespace Gen15hP

theorem trimRight_split (p : Char → Bool) (s : Str) : trimRight p s ++ (s.reverse.takeWhile p).reverse = s := by
  rw [trimRight, ← List.reverse_append, List.takeWhile_append_dropWhile, List.reverse_reverse]

/-- What `trimRight` drops, as `mergeText` gets hold of it. -/
theorem drop_trimRight (p : Char → Bool) (s : Str) :
    s.drop (trimRight p s).length = (s.reverse.takeWhile p).reverse := by
  conv => lhs; arg 2; rw [← trimRight_split p s]
  exact List.drop_left' rfl

theorem trimRight_last (p : Char → Bool) (s : Str) (ch : Char) (h : (trimRight p s).getLast? = some ch) : p ch = false := by
  rw [trimRight, List.getLast?_reverse] at h
  simpa [h] using List.head?_dropWhile_not p s.reverse

/-- What `trimLeft` drops, as `mergeText` gets hold of it. -/
theorem take_len_sub (s : Str) (p : Char → Bool) :
    s.take (s.length - (s.dropWhile p).length) = s.takeWhile p := by
  have h := List.takeWhile_append_dropWhile (p := p) (l := s)
  have hl : s.length - (s.dropWhile p).length = (s.takeWhile p).length := by
    rw [← congrArg List.length h, List.length_append, Nat.add_sub_cancel]
  conv => lhs; arg 2; rw [← h]
  exact List.take_left' hl.symm

end Gen15hP
