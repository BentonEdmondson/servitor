import Proofs.CleanStyle

/-
  Gemtext and plaintext renderers produce clean text.
-/

namespace Cells
open Str Ansi

def LineSub (line : Str) : Gemtext.Line → Prop
  | .link u a => u.Sublist line ∧ a.Sublist line
  | .header _ t => t.Sublist line
  | .bullet t => t.Sublist line
  | .quote t => t.Sublist line
  | .plain t => t.Sublist line

theorem headerText_sub (k : Nat) (line t : Str) (h : Gemtext.headerText k line = some t) :
    t.Sublist line := by
  unfold Gemtext.headerText at h
  split at h
  · split at h
    · rename_i ch rest heq
      split at h
      · cases h
        exact (List.dropWhile_sublist _).trans
          ((List.sublist_cons_self ch rest).trans (heq ▸ List.drop_sublist k line))
      · cases h
    · cases h
  · cases h

theorem classify_sub (line : Str) : LineSub line (Gemtext.classify line) := by
  unfold Gemtext.classify
  split
  · rename_i rest
    have hr : (rest.dropWhile Gemtext.isBlank).Sublist ('=' :: '>' :: rest) :=
      (List.dropWhile_sublist _).trans
        ((List.sublist_cons_self '>' rest).trans (List.sublist_cons_self '=' _))
    have hu := (List.takeWhile_sublist (fun c => !Gemtext.isBlank c)
      (l := rest.dropWhile Gemtext.isBlank)).trans hr
    refine ⟨hu, ?_⟩
    split
    · exact hu
    · exact ((List.dropWhile_sublist _).trans (List.dropWhile_sublist _)).trans hr
  · split
    · rename_i t ht; exact headerText_sub _ _ _ ht
    · split
      · rename_i t ht; exact headerText_sub _ _ _ ht
      · split
        · rename_i t ht; exact headerText_sub _ _ _ ht
        · split
          · exact (List.sublist_cons_self ' ' _).trans (List.sublist_cons_self '*' _)
          · exact (List.sublist_cons_self ' ' _).trans (List.sublist_cons_self '>' _)
          · exact List.sublist_cons_self '>' _
          · exact List.Sublist.refl _

section
variable (c : Colors) (hc : ColorsOk c)
include hc

theorem clean_codeBlockOf (buf : Str) (w : Int) (h : Safe.noCtl buf = true) :
    Clean (Gemtext.codeBlockOf c buf w) := by
  unfold Gemtext.codeBlockOf
  exact clean_append _ _
    (clean_codeBlock c hc _ (clean_dumbWrap _ _ (clean_trimSuffix_nl _ (clean_plain _ h)))) clean_nl

def GemInv (s : Gemtext.St) : Prop := Clean s.result ∧ Safe.noCtl s.buf = true

theorem gem_step (w : Int) (s : Gemtext.St) (line : Str) (hs : GemInv s)
    (hl : Safe.noCtl line = true) : GemInv (Gemtext.step c w s line) := by
  obtain ⟨h1, h2⟩ := hs
  unfold Gemtext.step
  split
  · split
    · exact ⟨clean_append _ _ h1 (clean_codeBlockOf c hc _ _ h2), rfl⟩
    · exact ⟨h1, h2⟩
  · split
    · refine ⟨h1, ?_⟩
      simp only
      rw [noCtl_append, noCtl_append]
      exact ⟨⟨h2, hl⟩, by decide⟩
    · have hsub := classify_sub line
      have add : ∀ t : Str, Clean t → Clean (s.result ++ t ++ ['\n']) :=
        fun t ht => clean_append _ _ (clean_append _ _ h1 ht) clean_nl
      have txt : ∀ t : Str, t.Sublist line → Clean t :=
        fun t ht => clean_plain _ (noCtl_sublist ht hl)
      split <;> rename_i heq <;> rw [heq] at hsub
      · exact ⟨add _ (clean_linkBlock c hc _ _ (clean_wrap _ _ (txt _ hsub.2))), h2⟩
      · exact ⟨add _ (clean_header c hc _ _ (clean_wrap _ _ (txt _ hsub))), h2⟩
      · exact ⟨add _ (clean_bullet _ (clean_wrap _ _ (txt _ hsub))), h2⟩
      · exact ⟨add _ (clean_quoteBlock c hc _ (clean_wrap _ _ (txt _ hsub))), h2⟩
      · exact ⟨add _ (txt _ hsub), h2⟩

/-- The text `renderFull` wraps: an unterminated preformatted block is closed at the end. -/
theorem gem_text_clean (lines : List Str) (hl : ∀ l ∈ lines, Safe.noCtl l = true) (w : Int) :
    Clean (let s := lines.foldl (Gemtext.step c w) {}
      if s.pre then s.result ++ Gemtext.codeBlockOf c s.buf w else s.result) := by
  have h : GemInv (lines.foldl (Gemtext.step c w) {}) :=
    List.foldlRecOn lines _ ⟨clean_nil, rfl⟩ fun s hs l hl' => gem_step c hc w s l hs (hl l hl')
  dsimp only
  split
  · exact clean_append _ _ h.1 (clean_codeBlockOf c hc _ _ h.2)
  · exact h.1

end

theorem matchUrl_append (s link after : Str) (h : Plaintext.matchUrl s = some (link, after)) :
    link ++ after = s := by
  unfold Plaintext.matchUrl at h
  split at h
  · rename_i ch cs
    split at h
    · dsimp only at h
      split at h
      · rename_i r heq
        split at h
        · cases h
        · simp only [Option.some.injEq, Prod.mk.injEq] at h
          obtain ⟨rfl, rfl⟩ := h
          have e1 := List.takeWhile_append_dropWhile (p := Plaintext.isHierChar) (l := r)
          have e2 := List.takeWhile_append_dropWhile (p := Plaintext.isSchemeChar) (l := cs)
          rw [heq] at e2
          simp only [List.cons_append, List.append_assoc, e1, e2]
      · cases h
    · cases h
  · cases h

section
variable (c : Colors) (hc : ColorsOk c)
include hc

theorem replaceUrls_clean : ∀ (fuel : Nat) (s : Str) (links : List Str) (ghost : List (Nat × Str)),
    Safe.noCtl s = true → Clean (Plaintext.replaceUrls c fuel s links ghost).1 := by
  intro fuel
  induction fuel with
  | zero => intro s links ghost _; rw [Plaintext.replaceUrls]; exact clean_nil
  | succ f ih =>
    intro s links ghost hs
    cases s with
    | nil => rw [Plaintext.replaceUrls]; exact clean_nil
    | cons ch rest =>
      rw [Plaintext.replaceUrls]
      split
      · rename_i link after heq
        have happ := matchUrl_append _ _ _ heq
        rw [← happ, noCtl_append] at hs
        exact clean_append _ _ (clean_link c hc _ _ (clean_plain _ hs.1)) (ih _ _ _ hs.2)
      · have hs' : Safe.noCtl ([ch] ++ rest) = true := hs
        rw [noCtl_append] at hs'
        exact clean_append [ch] _ (clean_plain _ hs'.1) (ih _ _ _ hs'.2)

end

end Cells
