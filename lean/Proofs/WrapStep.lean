import Model

/-
  The loop body of `ansi.Wrap`, split into its cases, and the state invariant.
-/

namespace WrapP
open Str Ansi AnsiSpec

theorem isSpace_nl : Uni.isSpace '\n' = true := by decide

/-- The `if len(word) > 0 { line += space + word … }` block. -/
def flush (s : WrapSt) : WrapSt :=
  if s.word.length > 0 then
    { s with line := s.line ++ s.space ++ s.word, space := [], word := [] }
  else s

/-- The whitespace branch after the flush. -/
def spStep (w : Int) (s : WrapSt) (m : RawCell) : WrapSt :=
  if m.letter = '\n' then
    let l := if (s.line.length + s.space.length : Int) ≤ w then s.line ++ s.space else s.line
    { result := s.result ++ [l], line := [], space := [], word := [] }
  else
    { s with space := s.space ++ [m] }

theorem wrapStep_space (w : Int) (s : WrapSt) (m : RawCell) (h : Uni.isSpace m.letter = true) :
    wrapStep w s m = spStep w (flush s) m := by
  simp [wrapStep, h, spStep, flush]

/-- One loop iteration for `1 ≤ w`: a whitespace cell; a cell after a word that fills a whole
    line; a cell that moves the word to a fresh line; a cell that just extends the word. -/
theorem wrapStep_cases {w : Int} (hw : 1 ≤ w) (s : WrapSt) (m : RawCell) :
    (Uni.isSpace m.letter = true ∧ wrapStep w s m = spStep w (flush s) m) ∨
    (Uni.isSpace m.letter = false ∧ (s.word.length : Int) = w ∧ wrapStep w s m =
      { result := s.result ++ [s.word], line := [], space := [], word := [m] }) ∨
    (Uni.isSpace m.letter = false ∧ (s.word.length : Int) ≠ w ∧
      (s.line.length + s.space.length + s.word.length : Int) ≥ w ∧ wrapStep w s m =
      { result := s.result ++ [s.line], line := [], space := [], word := s.word ++ [m] }) ∨
    (Uni.isSpace m.letter = false ∧ (s.word.length : Int) ≠ w ∧
      ¬ (s.line.length + s.space.length + s.word.length : Int) ≥ w ∧ wrapStep w s m =
      { s with word := s.word ++ [m] }) := by
  cases h : Uni.isSpace m.letter with
  | true => exact .inl ⟨rfl, wrapStep_space w s m h⟩
  | false =>
    have : ¬ (w ≤ 0) := by omega
    by_cases hf : (s.word.length : Int) = w
    · exact .inr (.inl ⟨rfl, hf, by simp [wrapStep, h, hf, this]⟩)
    · by_cases hp : (s.line.length + s.space.length + s.word.length : Int) ≥ w
      · exact .inr (.inr (.inl ⟨rfl, hf, hp, by simp [wrapStep, h, hf, hp]⟩))
      · exact .inr (.inr (.inr ⟨rfl, hf, hp, by simp [wrapStep, h, hf, hp]⟩))

/-- The loop invariant of `ansi.Wrap`: every line, finished or in the making, fits in `w`; `space` is blanks, `word` has none. -/
structure Inv (w : Int) (s : WrapSt) : Prop where
  res : ∀ l ∈ s.result, (l.length : Int) ≤ w
  line : (s.line.length : Int) ≤ w
  word : (s.word.length : Int) ≤ w
  tot : s.word ≠ [] → (s.line.length + s.space.length + s.word.length : Int) ≤ w
  spc : ∀ m ∈ s.space, Uni.isSpace m.letter = true ∧ m.letter ≠ '\n'
  wrd : ∀ m ∈ s.word, Uni.isSpace m.letter = false

theorem Inv_init (w : Int) (hw : 1 ≤ w) : Inv w {} := by
  constructor <;> simp <;> omega

theorem flush_word (s : WrapSt) : (flush s).word = [] := by
  unfold flush
  split
  · rfl
  · exact List.eq_nil_of_length_eq_zero (by omega)

theorem flush_result (s : WrapSt) : (flush s).result = s.result := by
  unfold flush; split <;> rfl

theorem forall_mem_snoc {α : Type} {p : α → Prop} {l : List α} {a : α} (h : ∀ x ∈ l, p x)
    (ha : p a) : ∀ x ∈ l ++ [a], p x :=
  List.forall_mem_append.mpr ⟨h, by simpa using ha⟩

theorem Inv_full_line {w : Int} {s : WrapSt} (hw : 1 ≤ w) (h : Inv w s)
    (hf : (s.word.length : Int) = w) : s.line = [] ∧ s.space = [] := by
  have := h.tot (List.ne_nil_of_length_pos (by omega))
  constructor <;> apply List.eq_nil_of_length_eq_zero <;> omega

theorem Inv_flush {w : Int} {s : WrapSt} (h : Inv w s) : Inv w (flush s) := by
  unfold flush
  split
  · have := h.tot (List.ne_nil_of_length_pos ‹_›)
    exact ⟨h.res, by simp only [List.length_append]; omega, by simp only [List.length_nil]; omega,
      by simp, by simp, by simp⟩
  · exact h

theorem Inv_spStep {w : Int} {s : WrapSt} (m : RawCell) (h : Inv w s) (hw0 : s.word = [])
    (hm : Uni.isSpace m.letter = true) : Inv w (spStep w s m) := by
  have hline := h.line
  unfold spStep
  split
  · refine ⟨forall_mem_snoc h.res ?_, by simp only [List.length_nil]; omega, by simp only [List.length_nil]; omega,
      by simp, by simp, by simp⟩
    split
    · simpa using ‹_›
    · exact hline
  · exact ⟨h.res, hline, h.word, by simp [hw0], forall_mem_snoc h.spc ⟨hm, ‹_›⟩, h.wrd⟩

theorem Inv_step {w : Int} (hw : 1 ≤ w) {s : WrapSt} (m : RawCell) (h : Inv w s) :
    Inv w (wrapStep w s m) := by
  have hline := h.line
  have hword := h.word
  have htot := h.tot
  rcases wrapStep_cases hw s m with ⟨hm, e⟩ | ⟨hm, hf, e⟩ | ⟨hm, hf, hp, e⟩ | ⟨hm, hf, hp, e⟩ <;> rw [e]
  · exact Inv_spStep m (Inv_flush h) (flush_word s) hm
  · refine ⟨forall_mem_snoc h.res hword, ?_, ?_, ?_, by simp, by simpa using hm⟩ <;>
      simp only [List.length_cons, List.length_nil] <;> omega
  · refine ⟨forall_mem_snoc h.res hline, ?_, ?_, ?_, by simp, forall_mem_snoc h.wrd hm⟩ <;>
      simp only [List.length_append, List.length_cons, List.length_nil] <;> omega
  · refine ⟨h.res, hline, ?_, ?_, h.spc, forall_mem_snoc h.wrd hm⟩ <;>
      simp only [List.length_append, List.length_cons, List.length_nil] <;> omega

theorem Inv_foldl {w : Int} (hw : 1 ≤ w) (cells : List RawCell) {s : WrapSt} (h : Inv w s) :
    Inv w (cells.foldl (wrapStep w) s) :=
  List.foldlRecOn cells _ h fun _ h m _ => Inv_step hw m h

end WrapP
